/-
  C05 — stream operations always terminate once the handler returned or the context ended; no
  deadlock, no panic (in-process streams). The model makes Go's panics explicit (`panicked`:
  close of a closed channel — send on a closed channel cannot be expressed because every write is
  guarded by the writer's own mutex slot) and splits every blocking operation at its `select`.
-/
import Proofs.C01
import Proofs.Lemmas.InprocAll
import Proofs.Lemmas.InprocUnaryAll

namespace InprocStream

/-- **No panic**: in no reachable state has the library closed a channel twice — for all
    interleavings, including CloseSend racing SendMsg, repeated CloseSend, operations after
    completion, and handler goroutines still sending while `finish` runs. -/
theorem C05_no_panic (c1 c2 : Nat) (rs : Bool) (s : St) (h : Reachable c1 c2 rs s) : s.panicked = false :=
  (base_reachable c1 c2 rs s h).noPanic

/-- …and no enabled step can set it. -/
theorem C05_no_step_panics (c1 c2 : Nat) (rs : Bool) (s s' : St) (a : Act) (evs : List Ev)
    (h : Reachable c1 c2 rs s) (hs : step s a = some (s', evs)) : s'.panicked = false :=
  C05_no_panic c1 c2 rs s' (reachable_step c1 c2 rs s s' a evs h hs)

/-- **Progress once the handler has returned**: every pending client operation has an enabled
    completion that needs no step of the peer. (`svrDone` is set first thing in `finish`.) -/
theorem C05_progress_after_handler_returned (c1 c2 : Nat) (rs : Bool) (s : St) (h : Reachable c1 c2 rs s)
    (hret : s.sReturned = true) :
    (s.cSend.isSome → (step s .cSendRemote).isSome) ∧
    (s.cRecv.isSome → s.respClosed = true → (step s .cTake).isSome ∨ (step s .cClosed).isSome) := by
  have hb := base_reachable c1 c2 rs s h
  refine ⟨?_, ?_⟩
  · intro hp
    cases hm : s.cSend with
    | none => simp [hm] at hp
    | some m => simp [step, hm, remoteDone, hb.doneRet, hret]
  · intro hp hcl
    cases hm : s.cRecv with
    | none => simp [hm] at hp
    | some mode =>
      cases hr : s.resp with
      | nil =>
        right
        simp only [step, hm, hr, hcl]
        cases s.ctx <;> cases mode <;> simp
      | cons f rest =>
        left
        simp only [step, hm, hr]
        cases s.ctx <;> cases mode <;> cases f <;> simp <;> split <;> simp

/-- **Progress once the context is done**: see `C04_cancel_unblocks` (every pending operation of
    either side has its context branch enabled). Restated here for the finishing server goroutine:
    with the context done, `finish` can always run to its end without the client's help. -/
theorem C05_finish_completes_after_cancel (c1 c2 : Nat) (rs : Bool) (s : St) (h : Reachable c1 c2 rs s)
    (r : Reason) (hctx : s.ctx = some r) (fs : List Frame) (hw : s.sWrite = some ⟨fs, .finish⟩) :
    (fs ≠ [] → (step s .sWriteCtx).isSome) ∧ (fs = [] → (step s .sFinishEnd).isSome) := by
  have hb := base_reachable c1 c2 rs s h
  refine ⟨?_, ?_⟩
  · intro hne
    cases fs with
    | nil => simp at hne
    | cons f rest => simp [step, hw, svrCtxDone, hctx]
  · intro he
    subst he
    have hnc : s.respClosed = false := by
      cases hc : s.respClosed with
      | false => rfl
      | true => have := (hb.closedW hc).1; simp [hw] at this
    simp [step, hw, hnc]

/-- a variant that strictly decreases with every internal (library) step: no operation can spin —
    each either completes, or parks waiting for the peer / the context -/
def measure (s : St) : Nat :=
  3 * (pendFrames s).length + (if s.sWrite.isSome then 1 else 0) + 2 * s.resp.length +
  (if s.cSend.isSome then 3 else 0) + (if s.cRecv.isSome then 1 else 0) + (if s.sRecv then 1 else 0) +
  2 * s.req.length

/-- **Bounded own steps**: every internal action strictly decreases `measure`, so from any state at
    most `measure s` library steps can happen before every operation has completed or is blocked. -/
theorem C05_internal_steps_bounded (c1 c2 : Nat) (rs : Bool) (s s' : St) (a : Act) (evs : List Ev)
    (h : Reachable c1 c2 rs s) (ha : a ∈ internalActs)
    (hs : step s a = some (s', evs)) : measure s' < measure s := by
  have hcw := (base_reachable c1 c2 rs s h).closedW
  clear h
  simp [internalActs] at ha
  rcases ha with rfl | rfl | rfl | rfl | rfl | rfl | rfl | rfl | rfl | rfl | rfl | rfl <;>
    invert hs [step, finishWrite] <;> simp_all [measure, pendFrames] <;> (try omega)

/-- **After the handler has finished, sends return nil or io.EOF** (with a live context; a send
    after CloseSend, or of a message the cloner refuses, is the caller's own error). -/
theorem C05_send_results_after_finish (s s' : St) (a : Act) (evs : List Ev) (res : Res)
    (hctx : s.ctx = none) (hs : step s a = some (s', evs)) (hev : Ev.ret .cs res ∈ evs) :
    res = .ok ∨ res = .eof ∨ (res = .plainErr ∧ (s.sendClosed = true ∨ a = .cSendRefused)) := by
  cases a <;> invert hs [step, finishWrite] <;> simp_all [svrCtxErr]

/-- **A refused send holds nothing**: a SendMsg whose message the cloner refuses returns its error and
    leaves the stream exactly as it was — in particular the send side is free for the next SendMsg or
    CloseSend (the defect a seeded change introduced by not releasing the mutex on that path). -/
theorem C05_refused_send_changes_nothing (s : St) (hc : s.cSend = none) :
    step s .cSendRefused = some (s, [.ret .cs .plainErr]) := by
  simp [step, hc]

/-- **The final status is idempotent**: once the client has been handed the call's error, every
    later RecvMsg returns it again and changes nothing. -/
theorem C05_final_status_idempotent (s : St) (e : HErr) (hl : s.last = some (.err e)) (hc : s.cRecv = none) :
    ∃ s', step s .cRecvBegin = some (s', [.ret .cr (translate e)]) ∧ s'.last = s.last ∧ s'.cDelivered = s.cDelivered := by
  simp [step, hc, hl]

/-- …and after a clean end (`io.EOF`), a further RecvMsg sees the closed, empty channel again. -/
theorem C05_eof_idempotent (s : St) (hctx : s.ctx = none) (hr : s.resp = []) (hcl : s.respClosed = true)
    (hc : s.cRecv = some .first) : ∃ s', step s .cClosed = some (s', [.ret .cr .eof]) ∧ s'.resp = [] ∧ s'.respClosed = true := by
  simp [step, hc, hr, hcl, hctx]

/-- non-vacuity: the handler returns while the client's second SendMsg is parked on a full buffer:
    the send completes with io.EOF -/
example : ∃ s, run (init 1 1 true) [.cSendBegin 1, .cSendEnq, .cSendBegin 2, .sReturn none] = some s ∧
    s.cSend = some 2 ∧ step s .cSendEnq = none ∧ (step s .cSendRemote).map (·.2) = some [.ret .cs .eof] := by
  exact ⟨_, rfl, rfl, rfl, rfl⟩

/-- **A send with room in the buffer completes on its own**, whatever the caller's receiving side is doing (a `RecvMsg`
    or `Header()` parked on another goroutine included — `cRecv` is not consulted): the enqueue step is enabled and returns
    nil under a live context. (The send and receive sides of the client stream share no lock in the model; the script
    engine's `send-blocked-with-empty-buffer` oracle and the explorer hold the implementation to that.) -/
theorem C05_send_with_room_completes (s : St) (m : Nat) (hp : s.cSend = some m) (hroom : s.req.length < s.capReq)
    (hctx : s.ctx = none) :
    ∃ s', step s .cSendEnq = some (s', [.ret .cs .ok]) ∧ s'.cSend = none ∧ s'.cRecv = s.cRecv := by
  simp [step, hp, hroom, hctx]

end InprocStream

/-! ### the unary call (`Channel.Invoke`) -/
namespace InprocUnary
open InprocStream (Reason HErr Res codeOf translate)

/-- **No goroutine is left behind**: once `Invoke` has returned (its deferred `cancel()` ends the
    server goroutine's context), the goroutine can always run to its end by itself: every
    remaining frame write has its context branch enabled, and then the channel is closed — once. -/
theorem C05_unary_goroutine_finishes (s : St) (hret : s.returned = true) (hpc : s.pc = 1) :
    (s.frames ≠ [] → (step s .wSkip).isSome) ∧ (s.frames = [] → (step s .wClose).isSome) := by
  refine ⟨?_, ?_⟩
  · intro hne
    cases hf : s.frames with
    | nil => simp [hf] at hne
    | cons f rest => simp [step, hpc, hf, svrCtxDone, hret]
  · intro he; simp [step, hpc, he]

/-- the channel is closed at most once: `wClose` is enabled only before the close -/
theorem C05_unary_close_once (s : St) (hpc : s.pc = 2) : step s .wClose = none := by
  simp [step, hpc]

end InprocUnary

/-! ### HTTP/1.1 client stream -/
namespace HttpClientStream
open InprocStream (Reason Res codeOf)

/-- **No panic**: the two `panic("cs.rCh was closed but cs.done == false!")` are unreachable —
    `rCh` is closed only by the completion `defer`, after `done` was set. -/
theorem C05_http_no_panic (rs : Bool) (s : St) (h : Reachable rs s) :
    s.panicked = false ∧ (s.rChClosed = true → s.done = true) :=
  ⟨(hinv_reachable rs s h).noPanic, (hinv_reachable rs s h).closedDone⟩

/-- **Once the reader goroutine has exited, nothing of the client stays blocked**: a pending RecvMsg
    sees the closed channel, a SendMsg parked in the request pipe sees the closed pipe. -/
theorem C05_http_progress_after_exit (rs : Bool) (s : St) (h : Reachable rs s) (hpc : s.pc = 3) :
    (s.cRecv.isSome → (step s .cRecvClosed).isSome ∨ (step s .cViolation).isSome) ∧ (s.cSend.isSome → (step s .cSendPipeClosed).isSome) := by
  have hi := hinv_reachable rs s h
  obtain ⟨hcl, hpipe⟩ := hi.exited hpc
  have hd := hi.closedDone hcl
  refine ⟨fun hp => ?_, fun hp => ?_⟩
  · cases hm : s.cRecv with
    | none => simp [hm] at hp
    | some m => cases m <;> simp [step, hm, hcl, hd] <;> split <;> simp
  · cases hm : s.cSend with
    | none => simp [hm] at hp
    | some m => simp [step, hm, hpipe]

/-- after completion, sends return io.EOF and receives repeat the final outcome -/
theorem C05_http_after_done (s : St) (m : Nat) (hd : s.done = true) (hs : s.cSend = none) (hr : s.cRecv = none) :
    step s (.cSendBegin m) = some (s, [.ret .cs .eof]) ∧ step s .cRecvBegin = some (s, [.ret .cr (finalOf s)]) := by
  simp [step, hs, hr, hd]

/-- **A recorded error is final**: once the call has recorded an error (a transport failure, the
    context's status, or the Internal error of a protocol violation), no later step — in particular
    not the reader goroutine reaching the trailer frame afterwards — replaces or clears it.
    (The code before the repair assigned the trailer's decode result to `cs.rErr` unconditionally:
    RecvMsg returned Internal and the next RecvMsg io.EOF.) -/
theorem C05_http_recorded_error_is_final (s : St) (a : Act) (s' : St) (evs : List Ev) (e : Res)
    (hs : step s a = some (s', evs)) (hr : s.rErr = some e) : s'.rErr = some e := by
  cases a <;> invert hs [step] <;> first | exact hr | simp_all [complete_rErr]

/-- **…and so is the final outcome** RecvMsg reports after completion: with the reader goroutine
    gone (or an error recorded) and no protocol-violation verdict pending, every step leaves
    `finalOf` unchanged. -/
theorem C05_http_final_status_stable (s : St) (a : Act) (s' : St) (evs : List Ev)
    (hs : step s a = some (s', evs)) (hpc : s.pc = 3 ∨ s.rErr.isSome) (hv : s.cRecv ≠ some .violation) :
    finalOf s' = finalOf s := by
  cases hr : s.rErr with
  | some e =>
    have := C05_http_recorded_error_is_final s a s' evs e hs hr
    simp [finalOf, hr, this]
  | none =>
    have hpc3 : s.pc = 3 := by simpa [hr] using hpc
    cases a <;> invert hs [step] <;> simp_all [finalOf]

end HttpClientStream

namespace HttpClientStream

/-- the only writers of the recorded error and of `done` of an HTTP client stream are RecvMsg's
    second-response verdict and the completion `defer` of the reader goroutine (regenerated from
    httpgrpc/client.go on every run) — the shape `complete` / `cViolation` of the model assume. The
    defect repaired by 3fa6be1 was a third writer, `doHttpCall` itself. -/
theorem C05_http_client_completion_writers :
    Gen.clientRErrWriters = ["RecvMsg", "doHttpCall/defer"] ∧ Gen.clientDoneWriters = ["RecvMsg", "doHttpCall/defer"] := by decide

end HttpClientStream
