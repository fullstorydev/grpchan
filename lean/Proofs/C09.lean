/-
  C09 — deadlines cross the HTTP transport without being extended or spuriously expired.
  Property theorems only. Facts (`Gen.unitTable`, divisor, floor rule, suffix,
  ParseInt bit size, saturation) are regenerated from /repo on every run.
-/
import Proofs.Lemmas.Codes
import Model.Timeout

namespace Timeout
open Prim Codes

/-- The unit table is the gRPC wire format's: H, M, S, m, u, n with their nanosecond values;
    any other suffix byte selects no unit. -/
theorem C09_units :
    unitOf 72 = 3600000000000 ∧ unitOf 77 = 60000000000 ∧ unitOf 83 = 1000000000 ∧
    unitOf 109 = 1000000 ∧ unitOf 117 = 1000 ∧ unitOf 110 = 1 ∧
    (∀ b : UInt8, b ∉ [72, 77, 83, 109, 117, 110] → unitOf b = 0) := by
  refine ⟨by decide, by decide, by decide, by decide, by decide, by decide, ?_⟩
  intro b hb
  have keys : ∀ p ∈ Gen.unitTable, UInt8.ofNat p.1 ∈ [72, 77, 83, 109, 117, 110] := by decide
  rcases lookup_mem_or_default Gen.unitTable 0 b.toNat with h | ⟨p, hp, hpb, _⟩
  · exact h
  · have := keys p hp
    rw [hpb, UInt8.ofNat_toNat] at this
    exact absurd this hb

/-- Why the saturation matters: the legal 8-digit value `99999999H` overflows int64. -/
theorem C09_wraps_without_saturation : wrap64 (99999999 * 3600000000000) < 0 := by decide

theorem parseTimeout_concat (ds : Bytes) (u : UInt8) :
    parseTimeout (ds ++ [u]) = parseBody (ds ++ [u]) u := by
  have hb : byteAt (ds ++ [u]) (((ds ++ [u]).length : Int) - 1) = some u := by
    unfold byteAt
    rw [List.length_append, List.length_singleton, if_pos (by omega)]
    have : (((ds.length + 1 : Nat) : Int) - 1).toNat = ds.length := by omega
    rw [this]; simp
  unfold parseTimeout
  rw [hb]
  simp

theorem mulDur_eq_min (v : Int) (n : Nat) (hv : 0 ≤ v) (hn : n ≠ 0) :
    mulDur v n = min (v * n) maxInt64 := by
  have hsat : Gen.timeoutSaturates = true := by decide
  have hiff : v ≤ maxInt64 / (n : Int) ↔ v * n ≤ maxInt64 := Int.le_ediv_iff_mul_le (by omega)
  have h0 : 0 ≤ v * n := Int.mul_nonneg hv (by omega)
  unfold mulDur
  rw [if_pos hsat]
  split
  · rename_i h
    have := hiff.mp h
    unfold wrap64 two63 two64; unfold maxInt64 at this ⊢; omega
  · rename_i h
    have := mt hiff.mpr h
    omega

theorem parseTimeout_digits (ds : Bytes) (hd : allDigits ds = true) (u : UInt8) (hu : unitOf u ≠ 0) :
    parseTimeout (ds ++ [u]) =
      if (digitsVal ds : Int) ≤ maxInt64 then
        .deadline (min ((digitsVal ds : Int) * (unitOf u : Int)) maxInt64)
      else .noDeadline := by
  have hbits : Gen.timeoutParseBits = 64 := by decide
  rw [parseTimeout_concat, parseBody, List.dropLast_concat, hbits, parseInt_digits ds hd, limOf_64]
  by_cases hv : (digitsVal ds : Int) ≤ maxInt64
  · rw [if_pos hv, if_pos (by unfold maxInt64 at hv; omega)]
    simp only [applyUnit, if_neg hu, mulDur_eq_min _ _ (Int.natCast_nonneg _) hu]
  · rw [if_neg hv, if_neg (by unfold maxInt64 at hv; omega)]

/-- **Valid values.** For every digit string `ds` (any length, leading zeros allowed) and every
    unit byte `u` of the table, with `v` the value of `ds` and `n` the unit's nanoseconds:
    * if `v·n` fits in int64 the handler gets exactly `v·n`;
    * otherwise it gets the furthest representable deadline (`MaxInt64`) or — when `v` itself
      exceeds int64 — no deadline at all; never a smaller or negative one. -/
theorem C09_parse_valid (ds : Bytes) (hd : allDigits ds = true) (u : UInt8) (hu : unitOf u ≠ 0) :
    ((digitsVal ds : Int) * (unitOf u : Int) ≤ maxInt64 →
        parseTimeout (ds ++ [u]) = .deadline ((digitsVal ds : Int) * (unitOf u : Int))) ∧
    ((digitsVal ds : Int) * (unitOf u : Int) > maxInt64 →
        parseTimeout (ds ++ [u]) = .deadline maxInt64 ∨ parseTimeout (ds ++ [u]) = .noDeadline) := by
  have hvle : (digitsVal ds : Int) ≤ (digitsVal ds : Int) * (unitOf u : Int) := by
    have := Int.mul_le_mul_of_nonneg_left (show (1 : Int) ≤ (unitOf u : Int) by omega)
      (Int.natCast_nonneg (digitsVal ds))
    rwa [Int.mul_one] at this
  rw [parseTimeout_digits ds hd u hu]
  constructor
  · intro hfit
    rw [if_pos (Int.le_trans hvle hfit), Int.min_eq_left hfit]
  · intro hbig
    by_cases hv : (digitsVal ds : Int) ≤ maxInt64
    · rw [if_pos hv, Int.min_eq_right (Int.le_of_lt hbig)]; exact .inl rfl
    · rw [if_neg hv]; exact .inr rfl

/-- **No crash**: for every header string whatsoever the parser returns without a panic
    (the `timeout[len(timeout)-1]` index is in range whenever the string is non-empty). -/
theorem C09_parse_total (s : Bytes) : parseTimeout s ≠ .panic := by
  by_cases hs : s = []
  · rw [hs]; decide
  · rw [← List.dropLast_concat_getLast hs, parseTimeout_concat]
    unfold parseBody applyUnit
    split
    · nofun
    · split <;> nofun

/-- A missing or empty header never produces a deadline. -/
theorem C09_no_header_no_deadline : parseTimeout [] = .noDeadline := by decide

/-- **No caller deadline ⇒ no header.** -/
theorem C09_no_deadline_none : clientHeaderOpt none = none := rfl

/-- **Client encoding.** For every remaining duration `d` (ns) the header is the decimal
    rendering of `max 1 (d / 10⁶)` followed by `m`, and the encoded duration `e` satisfies
    `d − 1ms < e ≤ d` when `d ≥ 1ms` (never later than the caller's, never earlier by more than the
    granularity) and is exactly the 1 ms floor otherwise. -/
theorem C09_client_encoding (d : Int) :
    clientHeader d = intToDec (clientMillis d) ++ [109] ∧
    1 ≤ clientMillis d ∧
    (1000000 ≤ d → d - 1000000 < clientMillis d * 1000000 ∧ clientMillis d * 1000000 ≤ d) ∧
    (d < 1000000 → clientMillis d = 1) := by
  have hdiv : Gen.clientDivisor = 1000000 := by decide
  have hcmp : (Gen.clientFloorCmp == "<=0") = true := by decide
  have hmin : Gen.clientMinimum = 1 := by decide
  have hsuf : clientSuffix = [109] := by decide +kernel
  have hm : clientMillis d = if Int.tdiv d 1000000 ≤ 0 then 1 else Int.tdiv d 1000000 := by
    unfold clientMillis; rw [hcmp, hdiv, hmin]; rfl
  refine ⟨by rw [clientHeader, hsuf], ?_, ?_, ?_⟩
  · rw [hm]; split <;> omega
  · intro hd
    rw [hm, Int.tdiv_eq_ediv_of_nonneg (by omega), if_neg (by omega)]; omega
  · intro hd
    -- Go's quotient truncates toward zero: one above the floor exactly on negative non-multiples
    have ht : Int.tdiv d 1000000 = d / 1000000 + if 0 ≤ d ∨ (1000000 : Int) ∣ d then 0 else 1 :=
      Int.tdiv_eq_ediv
    rw [hm, if_pos (by rw [ht]; omega)]

/-- **Client → server round trip**: what the server decodes from the client's own header is
    exactly `clientMillis d` milliseconds, for every remaining duration representable in int64. -/
theorem C09_client_server_roundtrip (d : Int) (hd : d ≤ maxInt64) :
    parseTimeout (clientHeader d) = .deadline (clientMillis d * 1000000) := by
  obtain ⟨hh, h1, hge, hlt⟩ := C09_client_encoding d
  obtain ⟨n, hn⟩ := Int.eq_ofNat_of_zero_le (show 0 ≤ clientMillis d by omega)
  have hfit : (n : Int) * 1000000 ≤ maxInt64 := by
    unfold maxInt64 at hd ⊢
    by_cases hc : 1000000 ≤ d
    · have := (hge hc).2; omega
    · have := hlt (by omega); omega
  rw [hh, hn, intToDec_natCast]
  have key := (C09_parse_valid (natToDec n) (natToDec_allDigits n) 109 (by decide)).1
  rw [digitsVal_natToDec, show ((unitOf 109 : Nat) : Int) = 1000000 by decide] at key
  exact key hfit

/-- non-vacuity -/
example : parseTimeout (natToDec 15 ++ [83]) = .deadline (15 * 1000000000) := by
  have h := (C09_parse_valid (natToDec 15) (natToDec_allDigits _) 83 (by decide)).1
  rw [digitsVal_natToDec] at h
  exact h (by decide)

/-- **The header applies whatever the request context already carries**: for every header value that
    decodes to a duration `d`, and every deadline (or none) already on the request's context, the
    handler's deadline exists, is never later than `now + d` (so never later than the caller's by more
    than transit and granularity), never later than the server's own bound, and *is* `now + d` when the
    server's bound is absent or later. The guard and the extended context are regenerated facts. -/
theorem C09_deadline_under_bounded_parent (parent : Option Int) (now : Int) (s : Bytes) (d : Int)
    (hp : parseTimeout s = .deadline d) :
    ∃ x, handlerDeadline parent now s = some x ∧ x ≤ now + d ∧
      (∀ p, parent = some p → x ≤ p) ∧
      ((parent = none ∨ ∃ p, parent = some p ∧ now + d ≤ p) → x = now + d) := by
  have hsite : applySiteAsModelled = true := by decide +kernel
  unfold handlerDeadline
  rw [hp]
  simp only [hsite, if_true]
  refine ⟨_, rfl, ?_⟩
  unfold withTimeout
  cases parent with
  | none => exact ⟨Int.le_refl _, nofun, fun _ => rfl⟩
  | some p =>
    refine ⟨Int.min_le_right _ _, fun q hq => ?_, fun h => ?_⟩
    · cases hq; exact Int.min_le_left _ _
    · obtain h | ⟨q, hq, hle⟩ := h
      · cases h
      · cases hq; exact Int.min_eq_right hle

/-- without a (valid) header the handler keeps exactly the request context's deadline: the transport adds none -/
theorem C09_no_header_keeps_parent (parent : Option Int) (now : Int) :
    handlerDeadline parent now [] = parent := by
  unfold handlerDeadline; rw [C09_no_header_no_deadline]

/-- non-vacuity: "5S" under a server-wide bound one hour away gives the caller's five seconds -/
example : handlerDeadline (some 3600000000000) 0 (natToDec 5 ++ [83]) = some 5000000000 := by
  have h := (C09_parse_valid (natToDec 5) (natToDec_allDigits _) 83 (by decide)).1
  rw [digitsVal_natToDec] at h
  have hp := h (by decide)
  obtain ⟨x, hx, _, _, heq⟩ := C09_deadline_under_bounded_parent (some 3600000000000) 0 _ _ hp
  rw [hx, heq (Or.inr ⟨_, rfl, by decide⟩)]
  decide

end Timeout
