/-
  C06 — in-process calls never share message memory between caller and handler.
  (1) Placement of the copies (model Placement, switches regenerated from the source): for every
      history of allocations, sends and receives, sender-owned and receiver-owned memory are
      disjoint and the library never reads a sender's object after its send returned.
  (2) The unary call (model InprocUnary): the request is never read after Invoke returned — for
      every interleaving of the decode, the return and the cancellation instant.
  Deep-copy behaviour of Clone/Copy is assumed here (validated by the pointer walk of the harness
  and treated in C18); data-race freedom proper is outside the model.
-/
import Model.Placement
import Proofs.Lemmas.InprocUnaryAll

namespace Placement

/-- with the clone on send: ids below `next` are the ones in use, the sender's objects are neither the
    receiver's nor in flight, and no late read has happened -/
structure Inv (s : St) : Prop where
  clone : s.cloneOnSend = true
  bs : ∀ x ∈ s.sender, x < s.next
  br : ∀ x ∈ s.receiver, x < s.next
  bf : ∀ x ∈ s.frames, x < s.next
  sr : ∀ x ∈ s.sender, x ∉ s.receiver
  sf : ∀ x ∈ s.sender, x ∉ s.frames
  late : s.lateRead = false

theorem inv_init (c2 : Bool) : Inv (init true c2) := by
  constructor <;> simp [init]

theorem mem_erase_of {x d : Nat} {l : List Nat} (h : x ∈ l.erase d) : x ∈ l := List.mem_of_mem_erase h

/- a fresh object is `s.next`, which the bounds keep out of every list; an object received without a
   copy comes out of `frames`, which `sf` keeps apart from the sender's -/
theorem inv_step (s s' : St) (a : Act) (h : Inv s) (hs : step s a = some s') : Inv s' := by
  obtain ⟨hc, b1, b2, b3, h2, h3, h4⟩ := h
  cases a <;> invert hs [step] <;> constructor <;> first | assumption | grind [mem_erase_of]

theorem inv_run (acts : List Act) : ∀ (s s' : St), Inv s → run s acts = some s' → Inv s' := by
  induction acts with
  | nil => intro s s' h hr; cases hr; exact h
  | cons a rest ih =>
    intro s s' h hr
    simp only [run] at hr
    split at hr
    · exact ih _ s' (inv_step s _ a h ‹_›) hr
    · cases hr

/-- the facts regenerated from the source: both SendMsg implementations put the result of
    `cloner.Clone` into the frame, both RecvMsg implementations (and Invoke) hand frame data out only
    through `cloner.Copy` -/
theorem C06_placement_facts :
    Gen.clientSendClones = true ∧ Gen.serverSendClones = true ∧
    Gen.serverRecvCopyCalls ≥ 1 ∧ Gen.serverRecvOtherDataUses = 0 ∧
    Gen.clientRecvCopyCalls ≥ 1 ∧ Gen.clientRecvOtherDataUses = 0 ∧
    Gen.unaryCopyCalls ≥ 2 ∧ Gen.unaryOtherDataUses = 0 := by decide

/-- **Disjoint ownership, no read after return** — for every history of allocations, sends and
    receives (into fresh or into pre-existing destinations), in either direction of the channel as
    the source has it: no object of the sending side is an object of the receiving side, no frame
    in flight is an object of the sending side, and the library has never read a sender's object
    after the send that handed it over returned. -/
theorem C06_disjoint_ownership (dir : Bool) (acts : List Act) (s : St) (hr : run (initFromSource dir) acts = some s) :
    (∀ x ∈ s.sender, x ∉ s.receiver) ∧ (∀ x ∈ s.sender, x ∉ s.frames) ∧ s.lateRead = false := by
  have hi : Inv (initFromSource dir) := by
    cases dir <;> simp only [initFromSource, C06_placement_facts.1, C06_placement_facts.2.1] <;> exact inv_init _
  have h := inv_run acts _ s hi hr
  exact ⟨h.sr, h.sf, h.late⟩

/-- **A receive overwrites its destination**: after `RecvMsg(dst)` the destination's previous
    memory is no longer the receiver's view of the message — what it holds is the (fresh) copy. -/
theorem C06_recv_overwrites (s s' : St) (dst f : Nat) (rest : List Nat) (hd : dst ∈ s.receiver)
    (hf : s.frames = f :: rest) (hcp : s.copyOnRecv = true) (hs : step s (.recvInto dst) = some s') :
    s'.receiver = s.next :: s.receiver.erase dst ∧ s.next ∉ s.sender ∨ s'.receiver = s.next :: s.receiver.erase dst := by
  simp [step, hd, hf, hcp] at hs
  subst hs
  right; rfl

/-- Without the clone on send (a realistic "optimisation") the property fails: the handler-side
    read of the frame touches the caller's object after SendMsg returned. -/
theorem C06_no_clone_counterexample : ∃ s, run (init false true) [.newMsg, .send 0, .recv] = some s ∧ s.lateRead = true := by
  exact ⟨_, rfl, rfl⟩

end Placement

namespace InprocUnary
open InprocStream (Reason HErr Res codeOf translate)

/-- **Once Invoke has returned, the library no longer reads the caller's request** — in every
    reachable state of the unary call (any placement of cancellation, any timing of the handler's
    decode, copies stalled in mid-flight): no copy of the request began after, or was still running
    at, the return; and Invoke does not return while a copy is in progress. -/
theorem C06_unary_no_read_after_return (cap : Nat) (s : St) (h : Reachable cap s) :
    s.readAfterReturn = false ∧ ¬(s.reading = true ∧ s.returned = true) := by
  have hu := uinv_reachable cap s h
  exact ⟨hu.rar, fun ⟨h1, h2⟩ => by simp [(hu.rd h1).1] at h2⟩

/-- a decode that comes too late is refused without touching the request -/
theorem C06_unary_late_decode_refused (s : St) (hg : s.guardDecode = true) (hpc : s.pc = 0) (hrd : s.reading = false)
    (hret : s.returned = true) : step s .hDecodeBegin = some (s, [.ret .h (.status 1)]) := by
  simp [step, hpc, hrd, hg, hret]

/-- The defect repaired by 515f033, as a counterexample on the pre-repair model: the context is
    already done, Invoke returns, and only then does the handler decode the caller's request. -/
theorem C06_old_code_reads_after_return : ∃ s, run (initOld 1) [.cancel .canceled, .cCtx, .cReturn, .hDecodeBegin] = some s ∧
    s.readAfterReturn = true := by
  exact ⟨_, rfl, rfl⟩

end InprocUnary
