/-
  C01 — every message is delivered exactly once, in order and intact (in-process streams).
  Theorems over the InprocStream transition system: for EVERY reachable state — any number of
  messages, any interleaving of client sender, client receiver, handler, and the cancellation
  instant, any channel capacities — what a receiver has obtained is a prefix of what its peer
  handed to SendMsg, and on a clean end the two sequences are equal.
  (Messages are opaque identities: content equality through Clone/Copy is C18's.)
-/
import Proofs.Lemmas.HttpClient
import Proofs.Lemmas.InprocAll
import Proofs.Lemmas.HttpServerStream
import Proofs.Lemmas.HttpCompose

namespace InprocStream

/-- **Requests**: what the handler's RecvMsg calls have returned is, at every moment, a prefix of
    what the client handed to SendMsg (in SendMsg order). -/
theorem C01_request_prefix (c1 c2 : Nat) (rs : Bool) (s : St) (h : Reachable c1 c2 rs s) :
    s.sDelivered <+: s.cOffered :=
  (inv_reachable c1 c2 rs s h).req.pre

/-- **Requests, clean end**: when the handler's RecvMsg reports end-of-stream (io.EOF), it has
    received exactly the messages the client sent, all of them, in order. -/
theorem C01_request_complete (c1 c2 : Nat) (rs : Bool) (s s' : St) (evs : List Ev)
    (h : Reachable c1 c2 rs s) (hs : step s .sRecvClosed = some (s', evs)) (hev : Ev.ret .h .eof ∈ evs) :
    s.sDelivered = s.cOffered := by
  have hi := inv_reachable c1 c2 rs s h
  invert hs [step]
  · simp [svrCtxErr] at hev; split at hev <;> cases hev
  · rename_i hc hctx
    simp only [Bool.and_eq_true, List.isEmpty_iff] at hc
    exact hi.req_clean_end hc.1.1 hc.1.2 hc.2 (by simpa using hctx)

/-- **Responses**: what the client's RecvMsg calls have returned is, at every moment, a prefix of
    what the handler handed to SendMsg. -/
theorem C01_response_prefix (c1 c2 : Nat) (rs : Bool) (s : St) (h : Reachable c1 c2 rs s) :
    s.cDelivered <+: s.sOffered := by
  have hi := inv_reachable c1 c2 rs s h
  have h1 : s.cDelivered <+: dataOf s.respDeq := prefix_left hi.cli.cPre
  have h2 : dataOf s.respDeq <+: dataOf s.respEnq := by rw [hi.base.respQ]; simp
  exact h1.trans (h2.trans (prefix_left hi.srv.sPre))

/-- **Responses, clean end**: when the client's RecvMsg on a response-streaming method reports
    io.EOF and the context is live, the client has received exactly what the handler sent. -/
theorem C01_response_complete (c1 c2 : Nat) (rs : Bool) (s s' : St) (evs : List Ev)
    (h : Reachable c1 c2 rs s) (hctx : s.ctx = none)
    (hs : step s .cClosed = some (s', evs)) (hev : Ev.ret .cr .eof ∈ evs) :
    s.cDelivered = s.sOffered := by
  have hi := inv_reachable c1 c2 rs s h
  invert hs [step] <;> simp_all
  -- only a RecvMsg that has not yet been given a message reports io.EOF
  rename_i hc hctx hm
  have hlast : s.last = none := hi.base.recvLast (by simp [hm])
  have h1 := hi.cli.cLive (by simp [frozen, hctx, lastIsErr, hlast])
  rw [(hi.clean_end hctx hc.1 hc.2).2, dataOf_reply] at h1
  simpa [held, hlast, hm] using h1.symm

/-- **Isolation**: a channel is a family of per-call states; a step of call `i` leaves the state of
    every other call untouched, so concurrent RPCs never observe each other's messages. -/
def stepAt (c : Nat → Option St) (i : Nat) (a : Act) : Option (Nat → Option St) :=
  match c i with
  | none => none
  | some s => (step s a).map fun (s', _) => fun j => if j = i then some s' else c j

theorem C01_isolation (c c' : Nat → Option St) (i j : Nat) (a : Act) (hij : j ≠ i)
    (hs : stepAt c i a = some c') : c' j = c j := by
  unfold stepAt at hs
  split at hs
  · simp at hs
  · simp at hs
    obtain ⟨s1, _, rfl⟩ := hs
    simp [hij]

/-- non-vacuity: a bidi call in which two requests and one response are delivered, then both sides
    see a clean end -/
example : ∃ s, run (init 1 1 true)
    [.cSendBegin 1, .cSendEnq, .sRecvBegin, .sRecvTake, .cSendBegin 2, .cSendEnq, .cCloseSend,
     .sRecvBegin, .sRecvTake, .sRecvBegin, .sRecvClosed, .sSendBegin 7, .sWriteEnq, .sReturn none,
     .sFinishEnd, .cRecvBegin, .cTake, .cRecvBegin, .cClosed] = some s ∧
    s.sDelivered = [1, 2] ∧ s.cOffered = [1, 2] ∧ s.cDelivered = [7] ∧ s.sOffered = [7] := by
  exact ⟨_, rfl, rfl, rfl, rfl, rfl⟩

end InprocStream

/-! ### HTTP/1.1 client stream (`httpgrpc` clientStream: reader goroutine, rCh hand-off, RecvMsg) -/
namespace HttpClientStream
open InprocStream (Reason Res codeOf)

theorem respStream_const (rs : Bool) (s : St) (h : Reachable rs s) : s.respStream = rs :=
  reachable_induction rs (fun s => s.respStream = rs) rfl (fun s a s' evs hp hs => by
    cases a <;> invert hs [step] <;> exact hp) s h

/-- **HTTP responses**: on a response-streaming call, what RecvMsg has returned is at every moment a
    prefix of the decodable data frames the transport has supplied, in order — for every
    interleaving of the transport, the reader goroutine, the receiver and the cancellation instant. -/
theorem C01_http_response_prefix (s : St) (h : Reachable true s) : s.delivered <+: s.supplied :=
  (hinv_reachable true s h).pre (respStream_const true s h)

/-- the final outcome is io.EOF only when no error was recorded and the trailer says OK -/
theorem final_eof (s : St) (hi : HInv s) (hd : s.done = true) (hf : finalOf s = .eof) :
    s.rErr = none ∧ s.tr = some 0 := by
  have h1 := hi.rErrNotEof
  have h2 := hi.doneTr hd
  unfold finalOf at hf
  split at hf
  · simp_all
  · split at hf <;> simp_all

/-- **HTTP responses, clean end**: when the call has completed with io.EOF, the reader has read an
    OK trailer frame, nothing was dropped, and the client has received every decodable data frame
    the transport supplied. -/
theorem C01_http_response_complete (s : St) (h : Reachable true s) (hd : s.done = true) (hf : finalOf s = .eof) :
    s.delivered = s.supplied ∧ s.sawTrailerOK = true := by
  have hi := hinv_reachable true s h
  obtain ⟨hre, htr⟩ := final_eof s hi hd hf
  have hsaw := hi.trOK htr
  obtain ⟨_, hpc, hbody⟩ := hi.sawSup hsaw
  have hnd : s.dropped = false := Bool.eq_false_iff.2 fun hdr => by simpa [hre] using (hi.droppedDone hdr).2
  have := hi.live (respStream_const true s h) hnd
  simp [holdList, hpc, hbody] at this
  exact ⟨this.symm, hsaw⟩

end HttpClientStream

namespace HttpServerStream
open InprocStream (HErr Reason Res codeOf)

/-- **Request direction over HTTP**: the messages a client-streaming handler has been given are, at
    every moment, a prefix of the decodable frames of the request body, in order. -/
theorem C01_http_server_request_prefix (req : List ReqItem) (acts : List Act) (s : St) (rs : List Res)
    (h : run (init true req) acts = some (s, rs)) (hcs : s.clientStreams = true) : msgsOf rs <+: dataOK req := by
  obtain ⟨hi, -, -, -, hm⟩ := run_init h
  obtain ⟨t, ht, -⟩ := hi.reqs
  rw [← hm, hi.multi hcs, ht, dataOK_append]
  exact List.prefix_append _ _

end HttpServerStream

namespace HttpCompose
open HttpClientStream (Act St finalOf)

/-- **HTTP response streams end to end, at every moment.** Take any handler program on the server
    (model HttpServerStream) and any execution of the client (model HttpClientStream: every
    interleaving of reader goroutine, RecvMsg, SendMsg, cancellation) in which the transport has so
    far delivered a prefix of what the server wrote. Then what the client's RecvMsg calls have
    returned is a prefix of the messages of the handler's successful SendMsg calls, in order. -/
theorem C01_http_end_to_end_prefix (cs : Bool) (req : List HttpServerStream.ReqItem)
    (hacts : List HttpServerStream.Act) (ss : HttpServerStream.St) (rs : List InprocStream.Res)
    (hsrv : HttpServerStream.run (HttpServerStream.init cs req) hacts = some (ss, rs))
    (cacts : List Act) (sc : St) (hcli : HttpClientStream.run (HttpClientStream.init true) cacts = some sc)
    (hfeed : itemsIn cacts <+: itemsOf ss.wire) :
    sc.delivered <+: okSends hacts rs := by
  have h := HttpClientStream.C01_http_response_prefix sc ⟨cacts, hcli⟩
  rw [run_init_supplied true cacts sc hcli] at h
  exact wire_msgs hsrv ▸ h.trans (dataOK_prefix _ _ hfeed)

/-- **…and at a clean end.** If, with the connection intact, the client reports io.EOF, then the
    transport had delivered the whole reply, the handler had returned nil, and the client has received
    every message the handler sent — no more, no fewer, in order. -/
theorem C01_http_end_to_end_complete (cs : Bool) (req : List HttpServerStream.ReqItem)
    (hacts : List HttpServerStream.Act) (s1 : HttpServerStream.St) (rs : List InprocStream.Res)
    (hsrv : HttpServerStream.run (HttpServerStream.init cs req) hacts = some (s1, rs))
    (e : Option InprocStream.HErr) (s2 : HttpServerStream.St) (r : InprocStream.Res)
    (hret : HttpServerStream.step s1 (.ret e) = some (s2, r)) (hw : s2.writeFailed = false) (hc : s2.connBroken = false)
    (cacts : List Act) (sc : St) (hcli : HttpClientStream.run (HttpClientStream.init true) cacts = some sc)
    (hfeed : itemsIn cacts <+: itemsOf s2.wire) (hd : sc.done = true) (hf : finalOf sc = .eof) :
    sc.delivered = okSends hacts rs ∧ e = none := by
  obtain ⟨hdel, -⟩ := HttpClientStream.C01_http_response_complete sc ⟨cacts, hcli⟩ hd hf
  have htr := (HttpClientStream.final_eof sc (HttpClientStream.hinv_reachable true sc ⟨cacts, hcli⟩) hd hf).2
  have hmem : HttpClientStream.Item.trailer 0 true ∈ itemsIn cacts := by
    simpa using run_init_trcode true cacts sc hcli 0 htr
  obtain ⟨fs, hfs, hwire⟩ := HttpServerStream.reply_complete cs req hacts s1 rs e s2 r hsrv hret hw hc
  obtain ⟨hall, hcode⟩ := feed_complete hfs (hwire ▸ hfeed) hmem
  refine ⟨?_, HttpServerStream.trailerCode_zero e hcode.symm⟩
  -- the client was given the whole reply, and its data frames are the handler's successful sends
  rw [hdel, run_init_supplied true cacts sc hcli, hall, ← hwire, step_msgs hret, wire_msgs hsrv]
  simp [okSends]

/-- **HTTP request streams end to end.** For any execution of the client model and any handler
    program on the server model whose request body is what the client has put on the wire so far
    (possibly cut short inside a frame): the messages the handler's RecvMsg calls have returned are a
    prefix of the messages the client's SendMsg calls offered, in call order — and only messages whose
    SendMsg the transport accepted. -/
theorem C01_http_end_to_end_request_prefix (rsFlag : Bool) (cacts : List Act) (sc : St)
    (hcli : HttpClientStream.run (HttpClientStream.init rsFlag) cacts = some sc)
    (tail : List HttpServerStream.ReqItem) (htail : tail = [] ∨ tail = [.cut])
    (hacts : List HttpServerStream.Act) (ss : HttpServerStream.St) (rs : List InprocStream.Res)
    (hsrv : HttpServerStream.run (HttpServerStream.init true (sc.reqWritten.map (fun m => .data m true) ++ tail)) hacts = some (ss, rs))
    (hcs : ss.clientStreams = true) :
    HttpServerStream.msgsOf rs <+: sc.reqWritten ∧ sc.reqWritten <+: sc.offered := by
  have h1 := HttpServerStream.C01_http_server_request_prefix _ hacts ss rs hsrv hcs
  have ht : HttpServerStream.dataOK tail = [] := by rcases htail with rfl | rfl <;> rfl
  rw [HttpServerStream.dataOK_append, dataOK_map_data, ht, List.append_nil] at h1
  exact ⟨h1, (List.prefix_append _ _).trans (reqinv_run rsFlag cacts sc hcli).pre⟩

end HttpCompose
