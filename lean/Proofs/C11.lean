/-
  C11 — the HTTP server runs handlers only for valid requests and always answers well-formed.
  Property theorems over the HttpServer decision model, for every request (all methods, media
  types, header/body conditions) and every handler behaviour / script.
-/
import Proofs.C14
import Model.HttpServer
import Proofs.Lemmas.HttpServerStream

namespace HttpServer
open Prim

/-- How often the registered handler and the application method run, for every request: the handler
    exactly when the request passes the four gates, the application method exactly when the message
    also decodes. -/
theorem handleMethod_calls (r : Req) (h : HandlerResult) (cd mo : Bool) :
    (handleMethod r h cd mo).descHandlerCalls =
      (if r.method = POST ∧ unaryAccepts r.mediaType = true ∧ r.headersDecode = true ∧ r.bodyReadOK = true
        then 1 else 0) ∧
    (handleMethod r h cd mo).appCalls =
      if r.unmarshalOK = true then (handleMethod r h cd mo).descHandlerCalls else 0 := by
  unfold handleMethod
  by_cases hm : r.method = POST
  · cases ha : unaryAccepts r.mediaType
    · simp [hm]
    cases hh : r.headersDecode
    · simp [hm]
    cases hb : r.bodyReadOK
    · simp [hm]
    cases hu : r.unmarshalOK
    · simp [hm]
    cases h
    · cases mo <;> simp [hm]
    · simp [hm]
  · simp [hm]

/-- The registered handler is invoked at most once per request, the application method at most
    once and only through it. -/
theorem C11_handler_at_most_once (r : Req) (h : HandlerResult) (cd mo : Bool) :
    (handleMethod r h cd mo).descHandlerCalls ≤ 1 ∧
    (handleMethod r h cd mo).appCalls ≤ (handleMethod r h cd mo).descHandlerCalls := by
  obtain ⟨hd, ha⟩ := handleMethod_calls r h cd mo
  constructor
  · rw [hd]; split <;> decide
  · rw [ha]; split
    · exact Nat.le_refl _
    · exact Nat.zero_le _

/-- The handler runs **only if** the method is POST, the media type is one the RPC kind supports,
    the headers decode and the body was read; application code additionally needs a decodable message. -/
theorem C11_handler_only_if_valid (r : Req) (h : HandlerResult) (cd mo : Bool) :
    ((handleMethod r h cd mo).descHandlerCalls = 1 →
        r.method = POST ∧ unaryAccepts r.mediaType = true ∧ r.headersDecode = true ∧ r.bodyReadOK = true) ∧
    ((handleMethod r h cd mo).appCalls = 1 → r.unmarshalOK = true) := by
  obtain ⟨hd, ha⟩ := handleMethod_calls r h cd mo
  constructor
  · rw [hd]; simp
  · rw [ha]; cases r.unmarshalOK <;> simp

/-- Conversely every valid request does reach the handler exactly once. -/
theorem C11_valid_runs_handler (r : Req) (h : HandlerResult) (cd mo : Bool)
    (hm : r.method = POST) (ha : unaryAccepts r.mediaType = true) (hh : r.headersDecode = true)
    (hb : r.bodyReadOK = true) :
    (handleMethod r h cd mo).descHandlerCalls = 1 := by
  rw [(handleMethod_calls r h cd mo).1, if_pos ⟨hm, ha, hh, hb⟩]

/-- The refusals: 405 (+ `Allow: POST`), 415, 400 — in that order of precedence — without
    running any handler. -/
theorem C11_status_map (r : Req) (h : HandlerResult) (cd mo : Bool) :
    (r.method ≠ POST → (handleMethod r h cd mo).httpStatus = 405 ∧ (handleMethod r h cd mo).allowPost = true ∧
        (handleMethod r h cd mo).descHandlerCalls = 0) ∧
    (r.method = POST → unaryAccepts r.mediaType = false →
        (handleMethod r h cd mo).httpStatus = 415 ∧ (handleMethod r h cd mo).descHandlerCalls = 0) ∧
    (r.method = POST → unaryAccepts r.mediaType = true → r.headersDecode = false →
        (handleMethod r h cd mo).httpStatus = 400 ∧ (handleMethod r h cd mo).descHandlerCalls = 0) := by
  refine ⟨fun hm => ?_, fun hm ha => ?_, fun hm ha hh => ?_⟩
  · simp [handleMethod, hm]
  · simp [handleMethod, hm, ha]
  · simp [handleMethod, hm, ha, hh]

/-- An undecodable request message is answered with InvalidArgument (an HTTP error status) and
    never reaches application code. -/
theorem C11_bad_message_invalid_argument (r : Req) (h : HandlerResult) (cd mo : Bool)
    (hm : r.method = POST) (ha : unaryAccepts r.mediaType = true) (hh : r.headersDecode = true)
    (hb : r.bodyReadOK = true) (hu : r.unmarshalOK = false) :
    (handleMethod r h cd mo).grpcCode = some 3 ∧ (handleMethod r h cd mo).appCalls = 0 ∧
    400 ≤ (handleMethod r h cd mo).httpStatus ∧ (handleMethod r h cd mo).httpStatus ≤ 599 := by
  have e : handleMethod r h cd mo = ⟨Codes.defaultRendererStatus 3 cd, false, 1, 0, some 3, false⟩ := by
    simp [handleMethod, hm, ha, hh, hb, hu]
  rw [e]
  exact ⟨rfl, rfl, Codes.C14_rendered_error_status 3 (by decide) cd⟩

/-- JSON is handled identically to protobuf: the decision depends on the media type only through
    membership in the accepted set, which contains both. -/
theorem C11_json_equals_proto (r : Req) (h : HandlerResult) (cd mo : Bool) :
    unaryAccepts Gen.unaryContentType = true ∧ unaryAccepts Gen.jsonContentType = true ∧
    handleMethod { r with mediaType := Gen.jsonContentType } h cd mo =
      handleMethod { r with mediaType := Gen.unaryContentType } h cd mo := by
  have h1 : unaryAccepts Gen.unaryContentType = true := by
    simp [unaryAccepts, Gen.unaryAccepts, Gen.unaryContentType]
  have h2 : unaryAccepts Gen.jsonContentType = true := by
    simp [unaryAccepts, Gen.unaryAccepts, Gen.jsonContentType]
  refine ⟨h1, h2, ?_⟩
  unfold handleMethod
  simp only [h1, h2]

/-- A stream request that passes the gate: the handler script runs, then one trailer frame is
    written unless a write failed. -/
theorem handleStream_of_valid (r : Req) (script : List SOp)
    (hm : r.method = POST) (ha : streamAccepts r.mediaType = true) (hh : r.headersDecode = true) :
    handleStream r script =
      let s := script.foldl stepS {}
      ⟨200, false, 1, if s.writeFailed then s.frames else s.frames ++ [.trailer]⟩ := by
  simp only [handleStream, hm, ha, hh, bne_self_eq_false, Bool.false_eq_true, ↓reduceIte, Bool.not_true]
  split <;> rfl

theorem handlerCalls_handleStream (r : Req) (script : List SOp) :
    (handleStream r script).handlerCalls =
      if r.method = POST ∧ streamAccepts r.mediaType = true ∧ r.headersDecode = true then 1 else 0 := by
  by_cases hm : r.method = POST
  · cases ha : streamAccepts r.mediaType
    · simp [handleStream, hm, ha]
    cases hh : r.headersDecode
    · simp [handleStream, hm, ha, hh]
    rw [handleStream_of_valid r script hm ha hh, if_pos ⟨hm, rfl, rfl⟩]
  · simp [handleStream, hm]

/-- Streams are refused for anything but POST + the stream content type (JSON is *not* accepted). -/
theorem C11_stream_gate (r : Req) (script : List SOp) :
    ((handleStream r script).handlerCalls ≤ 1) ∧
    ((handleStream r script).handlerCalls = 1 →
        r.method = POST ∧ streamAccepts r.mediaType = true ∧ r.headersDecode = true) ∧
    (r.method ≠ POST → (handleStream r script).httpStatus = 405 ∧ (handleStream r script).allowPost = true) ∧
    streamAccepts Gen.jsonContentType = false ∧ streamAccepts Gen.streamContentType = true := by
  rw [handlerCalls_handleStream]
  refine ⟨?_, ?_, fun hm => ?_, ?_, ?_⟩
  · split <;> decide
  · simp
  · simp [handleStream, hm]
  · simp [streamAccepts, Gen.streamAccepts, Gen.jsonContentType]
  · simp [streamAccepts, Gen.streamAccepts, Gen.streamContentType]

/-- invariant of the write side: the handler's script writes data frames only -/
theorem stepS_frames_data (s : SState) (op : SOp) (h : ∀ f ∈ s.frames, f = .data) :
    ∀ f ∈ (stepS s op).frames, f = .data := by
  cases op with
  | send m w =>
    simp only [stepS]
    split
    · exact h
    · split
      · simpa [or_imp, forall_and] using h
      · exact h
  | sendHeader => simp only [stepS]; split <;> exact h
  | _ => exact h

theorem foldl_frames_data (script : List SOp) (s : SState) (h : ∀ f ∈ s.frames, f = .data) :
    ∀ f ∈ (script.foldl stepS s).frames, f = .data := by
  induction script generalizing s with
  | nil => exact h
  | cons op rest ih => exact ih (stepS s op) (stepS_frames_data s op h)

/-- **A streaming reply is well formed** for every handler script: data frames only, followed by
    exactly one trailer frame at the very end — unless a write failed, in which case nothing more
    (in particular no trailer) is written. -/
theorem C11_stream_reply_well_formed (r : Req) (script : List SOp)
    (hm : r.method = POST) (ha : streamAccepts r.mediaType = true) (hh : r.headersDecode = true) :
    let rep := handleStream r script
    let s := script.foldl stepS {}
    (s.writeFailed = false → ∃ ds, rep.frames = ds ++ [.trailer] ∧ ∀ f ∈ ds, f = .data) ∧
    (s.writeFailed = true → ∀ f ∈ rep.frames, f = .data) := by
  intro rep s
  have hd : ∀ f ∈ s.frames, f = .data := foldl_frames_data script {} (by simp)
  have hrep : rep.frames = if s.writeFailed then s.frames else s.frames ++ [.trailer] := by
    show (handleStream r script).frames = _
    rw [handleStream_of_valid r script hm ha hh]
  rw [hrep]
  constructor
  · intro hw
    rw [hw]
    exact ⟨s.frames, rfl, hd⟩
  · intro hw
    rw [hw]
    exact hd

/-- non-vacuity -/
example : (handleMethod ⟨POST, "application/x-protobuf", true, true, true⟩ none false true).httpStatus = 200 := by
  simp [handleMethod, unaryAccepts, Gen.unaryAccepts]
example : (handleStream ⟨POST, "application/x-httpgrpc-proto+v1", true, true, true⟩ [.send true true, .send true true]).frames
    = [.data, .data, .trailer] := by
  simp [handleStream, streamAccepts, Gen.streamAccepts, stepS]

end HttpServer

namespace HttpServerStream
open InprocStream (HErr Reason Res codeOf)

/-- **Shape of every streaming reply, in every reachable state** (also with failed writes and broken
    connections): nothing, or the header block followed by data frames and at most one trailer
    frame, which is last. -/
theorem C11_http_server_reply_shape (cs : Bool) (req : List ReqItem) (acts : List Act) (s : St) (rs : List Res)
    (h : run (init cs req) acts = some (s, rs)) : wellFormed s.wire = true :=
  (run_init h).1.wf

/-- **…and a reply over an intact connection ends with exactly one trailer frame** -/
theorem C11_http_server_reply_ends_with_trailer (cs : Bool) (req : List ReqItem) (acts : List Act) (s1 : St) (rs : List Res)
    (e : Option HErr) (s : St) (r : Res) (h1 : run (init cs req) acts = some (s1, rs)) (h2 : step s1 (.ret e) = some (s, r))
    (hw : s.writeFailed = false) (hc : s.connBroken = false) :
    ∃ h fs c md, allData fs = true ∧ s.wire = .head h :: (fs ++ [.trailer c md]) := by
  obtain ⟨fs, hfs, hwire⟩ := reply_complete cs req acts s1 rs e s r h1 h2 hw hc
  exact ⟨_, fs, _, _, hfs, hwire⟩

/-- nothing is written after the handler has returned -/
theorem C11_http_server_nothing_after_return (s : St) (a : Act) (s' : St) (r : Res) (hf : s.finished = true)
    (h : step s a = some (s', r)) : s'.wire = s.wire := by
  rw [step_finished hf] at h
  cases a <;> invert h [stepFinished]
  rfl

end HttpServerStream

namespace HttpServerStream

/-- the sites the stream model builds in, regenerated from httpgrpc/server.go on every run: the
    trailer frame is skipped only after a failed write; SendMsg answers io.EOF after a failed write,
    commits the headers and remembers a failure; setHeader refuses once the headers are committed
    before touching the header map; SetTrailer accumulates copies; the single-request probe -/
theorem C11_http_stream_facts :
    Gen.streamTrailerSkipConds = ["str.writeFailed"] ∧ Gen.serverSendShape = true ∧ Gen.serverHeaderGuardFirst = true ∧
    Gen.serverTrailerAppends = true ∧ Gen.serverSingleRequestProbe = true := by decide

end HttpServerStream

namespace HttpServer

/-- regenerated from httpgrpc/server.go: `Server.ServeHTTP` hands the request to the mux as it is — no rewriting of the
    path in front of it, so only the exact registered paths reach the gate modelled here (404 otherwise) -/
theorem C11_serve_http_dispatches_unchanged : Gen.serveHTTPBody = "{ s.mux.ServeHTTP(w, r) }" := rfl

end HttpServer
