/-
  C12 — method names resolve to exactly the registered handler, or fail cleanly.
  Property theorems with their helper lemmas (those about `splitN2` alone are in Proofs/Lemmas/Codes.lean).
  The in-process guards (`method == ""`, `len(strs) != 2`) are facts regenerated from /repo.
-/
import Proofs.Lemmas.Codes
import Model.Resolve

namespace Resolve
open Prim

/-! ### helper lemmas -/

theorem facts : Gen.invokeGuardEmpty = true ∧ Gen.invokeCheckLen = true ∧
    Gen.newStreamGuardEmpty = true ∧ Gen.newStreamCheckLen = true := by decide

/-- the name after the leading-slash normalisation -/
def norm (m : Bytes) : Bytes :=
  match m with
  | [] => [47]
  | c :: r => if c == 47 then c :: r else 47 :: c :: r

theorem normalise_true (m : Bytes) : normalise true m = some (norm m) := by
  cases m with
  | nil => rfl
  | cons c r => exact (apply_ite some _ _ _).symm

theorem norm_drop (m : Bytes) : ∃ r, norm m = 47 :: r := by
  unfold norm
  split
  · exact ⟨_, rfl⟩
  · split
    · rename_i h; exact ⟨_, by rw [beq_iff_eq.mp h]⟩
    · exact ⟨_, rfl⟩

theorem inprocNow_eq (k : Kind) (reg : List Svc) (m : Bytes) :
    inprocNow k reg m =
      match splitN2 ((norm m).drop 1) 47 with
      | [svc, mth] => lookup k reg svc mth
      | _ => .unimplemented := by
  obtain ⟨h1, h2, h3, h4⟩ := facts
  unfold inprocNow
  cases k <;> simp only [h1, h2, h3, h4, inproc, normalise_true] <;> rfl

theorem lookup_eq_handler_iff (k : Kind) (reg : List Svc) (a b svc mth : Bytes) :
    lookup k reg a b = .handler svc mth ↔
      a = svc ∧ b = mth ∧ ∃ s, query reg a = some s ∧ (methodsOf k s).contains b = true := by
  unfold lookup
  cases query reg a with
  | none => simp
  | some s => by_cases hc : b ∈ methodsOf k s <;> simp [hc]

/-! ### property theorems -/

/-- **No panic**: for every method-name string, every registry and both call kinds the in-process
    resolution ends in a handler or a status error — never a run-time panic. -/
theorem C12_inproc_no_panic (k : Kind) (reg : List Svc) (m : Bytes) : inprocNow k reg m ≠ .panic := by
  rw [inprocNow_eq]
  split
  · unfold lookup
    split
    · simp
    · split <;> simp
  · simp

/-- **Exact resolution**: a handler runs iff the (normalised) name is exactly
    "/" ++ svc ++ "/" ++ mth with a slash-free `svc` that is registered and has `mth` among its
    methods *of that kind*; and then it is that handler and no other. -/
theorem C12_inproc_resolve (k : Kind) (reg : List Svc) (m svc mth : Bytes) :
    inprocNow k reg m = .handler svc mth ↔
      (norm m = 47 :: (svc ++ 47 :: mth) ∧ (∀ y ∈ svc, y ≠ 47) ∧
       ∃ s, query reg svc = some s ∧ (methodsOf k s).contains mth = true) := by
  rw [inprocNow_eq]
  constructor
  · intro h
    obtain ⟨r, hr⟩ := norm_drop m
    rw [hr, List.drop_succ_cons, List.drop_zero] at h
    -- only a name with a second slash reaches the lookup, and `SplitN` cuts at the first one
    rcases splitN2_cases r 47 with ⟨h1, _⟩ | ⟨a, b, h1, h2, h3⟩ <;> rw [h1] at h
    · simp at h
    · obtain ⟨rfl, rfl, hq⟩ := (lookup_eq_handler_iff k reg a b svc mth).mp h
      exact ⟨by rw [hr, h2], h3, hq⟩
  · rintro ⟨he, hs, hq⟩
    rw [he, List.drop_succ_cons, List.drop_zero, splitN2_no_sep svc mth 47 hs]
    exact (lookup_eq_handler_iff k reg svc mth svc mth).mpr ⟨rfl, rfl, hq⟩

/-- Unknown service, unknown method, or a method of the other kind (unary name on the stream API
    and vice versa): a status error and no handler. -/
theorem C12_inproc_unknown_or_kind_mismatch (k : Kind) (reg : List Svc) (m : Bytes)
    (h : ∀ svc mth s, norm m = 47 :: (svc ++ 47 :: mth) → query reg svc = some s →
          (methodsOf k s).contains mth = false) :
    inprocNow k reg m = .unimplemented := by
  cases ho : inprocNow k reg m with
  | unimplemented => rfl
  | panic => exact absurd ho (C12_inproc_no_panic k reg m)
  | handler svc mth =>
    obtain ⟨he, _, s, hq, hc⟩ := (C12_inproc_resolve k reg m svc mth).mp ho
    rw [h svc mth s he hq] at hc; simp at hc

/-! ### HTTP: both sides build the path with `path.Join(base, name)` -/

theorem segsAux_plain (s cur rest : Bytes) (hs : ∀ y ∈ s, y ≠ 47) :
    segsAux cur (s ++ rest) = segsAux (s.reverse ++ cur) rest := by
  induction s generalizing cur with
  | nil => rfl
  | cons c t ih =>
    have hc : (c == 47) = false := by simpa using hs c (by simp)
    simp only [List.cons_append, segsAux, hc, Bool.false_eq_true, ↓reduceIte]
    rw [ih (c :: cur) (fun y hy => hs y (by simp [hy]))]
    simp

theorem segs_plain (s : Bytes) (hs : ∀ y ∈ s, y ≠ 47) : segs s = [s] := by
  have := segsAux_plain s [] [] hs
  rw [List.append_nil, List.append_nil] at this
  rw [segs, this, segsAux, List.reverse_reverse]

theorem segs_append_slash (s rest : Bytes) (hs : ∀ y ∈ s, y ≠ 47) :
    segs (s ++ 47 :: rest) = s :: segs rest := by
  rw [segs, segsAux_plain s [] _ hs, List.append_nil]
  simp only [segsAux, beq_self_eq_true, if_true, List.reverse_reverse, segs]

theorem plain_spec (s : Bytes) (h : plain s = true) :
    s.isEmpty = false ∧ (s == [46]) = false ∧ (s == [46, 46]) = false ∧ ∀ y ∈ s, y ≠ 47 := by
  unfold plain at h
  simp only [Bool.and_eq_true, Bool.not_eq_true', bne_iff_ne, ne_eq] at h
  obtain ⟨⟨⟨h1, h2⟩, h3⟩, h4⟩ := h
  refine ⟨h1, by simpa using h3, by simpa using h4, ?_⟩
  intro y hy e
  subst e
  have : s.contains 47 = true := List.contains_iff_mem.mpr hy
  rw [this] at h2; simp at h2

theorem cleanSegs_append (acc xs ys : List Bytes) :
    cleanSegs acc (xs ++ ys) = cleanSegs (cleanSegs acc xs).reverse ys := by
  induction xs generalizing acc with
  | nil => simp [cleanSegs]
  | cons x t ih =>
    simp only [List.cons_append, cleanSegs]
    split
    · exact ih acc
    · split
      · exact ih _
      · exact ih _

theorem cleanSegs_empty_seg (acc : List Bytes) (rest : List Bytes) :
    cleanSegs acc ([] :: rest) = cleanSegs acc rest := by
  simp [cleanSegs]

theorem cleanSegs_plain (acc xs : List Bytes) (h : ∀ x ∈ xs, plain x = true) :
    cleanSegs acc xs = acc.reverse ++ xs := by
  induction xs generalizing acc with
  | nil => simp [cleanSegs]
  | cons x t ih =>
    obtain ⟨h1, h2, h3, _⟩ := plain_spec x (h x List.mem_cons_self)
    simp only [cleanSegs, h1, h2, h3, Bool.or_self, Bool.false_eq_true, if_false]
    rw [ih _ (fun y hy => h y (List.mem_cons_of_mem _ hy))]
    simp

theorem joinSegs_eq (base name : Bytes) :
    joinSegs base name = cleanSegs (joinSegs base []).reverse (segs name) := by
  have hb : joinSegs base [] = cleanSegs [] (segs base) := by
    unfold joinSegs
    rw [cleanSegs_append]
    simp [segs, segsAux, cleanSegs]
  rw [hb, joinSegs, cleanSegs_append]

/-- **Same path on both sides.** For every base path and every plain service/method segment pair,
    the client's `path.Join(base, "/svc/mth")` and the server's `path.Join(base, "svc/mth")` are the
    same clean path: the base's clean segments followed by `svc`, `mth`. -/
theorem C12_http_join_same (base s n : Bytes) (hs : plain s = true) (hn : plain n = true) :
    joinSegs base (47 :: (s ++ 47 :: n)) = joinSegs base [] ++ [s, n] ∧
    joinSegs base (s ++ 47 :: n) = joinSegs base [] ++ [s, n] := by
  have e2 : segs (s ++ 47 :: n) = [s, n] := by
    rw [segs_append_slash s n (plain_spec s hs).2.2.2, segs_plain n (plain_spec n hn).2.2.2]
  have e1 : segs (47 :: (s ++ 47 :: n)) = [[], s, n] := by
    rw [← e2]; exact segs_append_slash [] _ nofun
  have hc : ∀ acc, cleanSegs acc [s, n] = acc.reverse ++ [s, n] := fun acc =>
    cleanSegs_plain acc [s, n] (by simp [hs, hn])
  constructor
  · rw [joinSegs_eq, e1, cleanSegs_empty_seg, hc, List.reverse_reverse]
  · rw [joinSegs_eq, e2, hc, List.reverse_reverse]

/-- **Distinct names, distinct paths**: under one base path the joined path determines the
    (service, method) pair, so an exact-match mux can only select the handler that was named. -/
theorem C12_http_join_injective (base s n s' n' : Bytes)
    (hs : plain s = true) (hn : plain n = true) (hs' : plain s' = true) (hn' : plain n' = true)
    (h : joinSegs base (47 :: (s ++ 47 :: n)) = joinSegs base (s' ++ 47 :: n')) : s = s' ∧ n = n' := by
  rw [(C12_http_join_same base s n hs hn).1, (C12_http_join_same base s' n' hs' hn').2] at h
  simpa using List.append_cancel_left h

/-- non-vacuity -/
example : inprocNow .unary [⟨[115], [[109]], []⟩] [47, 115, 47, 109] = .handler [115] [109] := by decide
example : inprocNow .stream [⟨[115], [[109]], []⟩] [47, 115, 47, 109] = .unimplemented := by decide
example : inprocNow .unary [] [] = .unimplemented := by decide
example : joinSegs [47, 97, 47] [47, 115, 47, 109] = [[97], [115], [109]] := by decide

end Resolve
