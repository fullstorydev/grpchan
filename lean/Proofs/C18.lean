/-
  C18 — every cloner adapter produces equal, deep and independent copies.
  The adapters' logic is proved under the stated behaviour of the protobuf primitives
  (Model/Cloner.lean, "assumed"); those assumptions are validated against the real libraries by the
  correspondence run, which is where the deviations for dynamic messages and the codec adapter's
  missing type check are found (recorded in known_findings.json).
-/
import Model.Cloner

namespace Cloner

/-! What the primitives return when they succeed. -/

theorem copyMessage_ok {n : Nat} {out inn : Msg} {r : Msg × Nat} (h : copyMessage n out inn = .ok r) :
    r = ({ out with val := inn.val, mem := [n] }, n + 1) := by
  unfold copyMessage at h
  split at h; · cases h
  split at h; · cases h
  split at h; · cases h
  exact (R.ok.inj h).symm

theorem unmarshal_ok {n b : Nat} {out : Msg} {r : Msg × Nat} (h : unmarshal n b out = .ok r) :
    r = ({ out with val := b, mem := [n] }, n + 1) := by
  unfold unmarshal at h
  split at h; · cases h
  split at h; · cases h
  split at h; · cases h
  exact (R.ok.inj h).symm

theorem cloneMessage_ok {n : Nat} {m : Msg} {r : Msg × Nat} (h : cloneMessage n m = .ok r) :
    r = ({ m with mem := [n] }, n + 1) := by
  unfold cloneMessage at h
  split at h; · cases h
  exact (R.ok.inj h).symm

theorem codecCopy_ok {n : Nat} {out inn : Msg} {r : Msg × Nat} (h : codecCopy n out inn = .ok r) :
    r = ({ out with val := inn.val, mem := [n] }, n + 1) := by
  unfold codecCopy marshal at h
  split at h; · cases h
  rename_i b hb
  split at hb
  · cases hb; exact unmarshal_ok h
  · cases hb

/-- Every adapter's `Copy`, when it succeeds, returns the destination with the source's content in
    one freshly allocated cell — through `CopyMessage`, through the wire format or through a clone. -/
theorem Adapter.copy_ok {a : Adapter} {n : Nat} {out inn : Msg} {r : Msg × Nat} (h : a.copy n out inn = .ok r) :
    r = ({ out with val := inn.val, mem := [n] }, n + 1) := by
  cases a
  · simp only [Adapter.copy, protoCopy] at h
    split at h
    · exact copyMessage_ok h
    · exact codecCopy_ok h
  · exact codecCopy_ok h
  · simp only [Adapter.copy, cloneFuncCopy] at h
    split at h
    · rename_i c _ hc
      cases cloneMessage_ok hc
      split at h; · cases h
      exact (R.ok.inj h).symm
    · cases h
    · cases h
  · exact copyMessage_ok h

/-- `Clone` of every adapter, when it succeeds, is `proto.Clone` of the source or a zero value of its
    Go type filled by the adapter's `Copy`. -/
theorem Adapter.clone_ok {a : Adapter} {n : Nat} {inn : Msg} {r : Msg × Nat} (h : a.clone n inn = .ok r) :
    r = ({ inn with mem := [n] }, n + 1) ∨ r = ({ reflectNew inn with val := inn.val, mem := [n] }, n + 1) := by
  cases a
  · simp only [Adapter.clone, protoClone] at h
    split at h
    · exact .inl (cloneMessage_ok h)
    · exact .inr (codecCopy_ok h)
  · exact .inr (codecCopy_ok h)
  · exact .inl (cloneMessage_ok h)
  · exact .inr (copyMessage_ok h)

/-- **Copy: equal, fresh, replacing.** For every adapter, whenever `Copy(out, in)` succeeds the
    destination's content is exactly the source's — whatever it held before — and all memory
    reachable from it was allocated by this call (so none is shared with the source or with
    anything that existed before). -/
theorem C18_copy_equal_fresh_replaced (a : Adapter) (n : Nat) (out inn out' : Msg) (n' : Nat)
    (h : a.copy n out inn = .ok (out', n')) :
    out'.val = inn.val ∧ (∀ id ∈ out'.mem, n ≤ id ∧ id < n') ∧ out'.typ = out.typ := by
  cases a.copy_ok h
  simp

/-- **Clone: equal and fresh**, same statement for `Clone`. -/
theorem C18_clone_equal_fresh (a : Adapter) (n : Nat) (inn c : Msg) (n' : Nat)
    (h : a.clone n inn = .ok (c, n')) :
    c.val = inn.val ∧ c.typ = inn.typ ∧ (∀ id ∈ c.mem, n ≤ id ∧ id < n') := by
  rcases a.clone_ok h with e | e <;> cases e <;> simp [reflectNew]

/-- Hence no memory is shared with the source (or anything allocated earlier). -/
theorem C18_copy_fresh (a : Adapter) (n : Nat) (out inn out' : Msg) (n' : Nat)
    (h : a.copy n out inn = .ok (out', n')) (hin : ∀ id ∈ inn.mem, id < n) :
    ∀ id ∈ out'.mem, id ∉ inn.mem := by
  intro id hid hmem
  have := (C18_copy_equal_fresh_replaced a n out inn out' n' h).2.1 id hid
  have := hin id hmem
  omega

/-- **A pointer to something that is not a protobuf message is refused** by every adapter,
    as source of `Copy`, as source of `Clone`, with an error (not a shallow copy, not a panic). -/
theorem C18_refuses_non_proto (a : Adapter) (n : Nat) (out inn : Msg) (h : inn.typ = 0) (hu : inn.dyn = false) :
    (∃ x, a.copy n out inn = x ∧ (x matches .error)) ∧ (∃ x, a.clone n inn = x ∧ (x matches .error)) := by
  have hp : isProto inn = false := by simp [isProto, h]
  have h1 (out) : copyMessage n out inn = .error := by simp [copyMessage, hp]
  have h2 (out) : codecCopy n out inn = .error := by simp [codecCopy, marshal, hp]
  have h3 : cloneMessage n inn = .error := by simp [cloneMessage, hp]
  cases a <;>
    simp [Adapter.copy, Adapter.clone, protoCopy, protoClone, codecClone, copyFuncClone, cloneFuncCopy, hp, h1, h2, h3]

/-- **A destination of a different message type is refused** by the protobuf default, the
    clone-function and the copy-function adapters. -/
theorem C18_refuses_type_mismatch (a : Adapter) (ha : a ≠ .codec) (n : Nat) (out inn : Msg)
    (hi : inn.typ ≠ 0) (ho : out.typ ≠ 0) (hne : out.typ ≠ inn.typ) (hu : out.usable = true) :
    ∃ x, a.copy n out inn = x ∧ (x matches .error) := by
  have hc : copyMessage n out inn = .error := by simp [copyMessage, isProto, hi, ho, hne, hu]
  cases a
  · simp [Adapter.copy, protoCopy, isProto, hi, ho, hc]
  · exact absurd rfl ha
  · simp [Adapter.copy, cloneFuncCopy, cloneMessage, pClone, isProto, hi, hne.symm]
  · simp [Adapter.copy, hc]

/-- …but **not** by the codec adapter: copying through the wire format cannot see the type.
    (The full statement "every adapter refuses a mismatched destination" is false; this is its
    counterexample, replayed on the implementation as a known finding.) -/
theorem C18_codec_accepts_type_mismatch :
    ∃ out inn n r, out.typ ≠ inn.typ ∧ out.typ ≠ 0 ∧ inn.typ ≠ 0 ∧ Adapter.codec.copy n out inn = .ok r := by
  refine ⟨⟨3, false, 9, [], true, true⟩, ⟨1, false, 5, [], true, true⟩, 0, (⟨3, false, 5, [0], true, true⟩, 1), by decide, by decide, by decide, rfl⟩

/-- **Generated and dynamic representations interoperate** through the protobuf default, the codec
    and the copy-function adapters: same message type, either representation on either side. -/
theorem C18_generated_dynamic_interop (a : Adapter) (ha : a ≠ .cloneFunc) (n : Nat) (out inn : Msg)
    (hi : inn.typ ≠ 0) (ht : out.typ = inn.typ) (hu : out.usable = true) (hw : out.acceptsWire = true) :
    ∃ r, a.copy n out inn = .ok r := by
  have ho : out.typ ≠ 0 := ht ▸ hi
  have hc : ∃ r, copyMessage n out inn = .ok r := by simp [copyMessage, isProto, hi, ht, hu]
  cases a
  · simpa [Adapter.copy, protoCopy, isProto, hi, ho] using hc
  · simp [Adapter.copy, codecCopy, marshal, unmarshal, isProto, hi, ho, hu, hw]
  · exact absurd rfl ha
  · exact hc

/-- …but the clone-function adapter's reflective shallow copy needs identical Go types
    (counterexample to full interoperability; known finding). -/
theorem C18_clonefunc_refuses_other_representation :
    ∃ out inn n, out.typ = inn.typ ∧ (Adapter.cloneFunc.copy n out inn matches .error) := by
  exact ⟨⟨1, true, 0, [], true, true⟩, ⟨1, false, 5, [], true, true⟩, 0, rfl, by decide⟩

/-- A clone of a dynamic message through `reflect.New` (codec and copy-function adapters) hits a
    zero `dynamic.Message` without descriptor: the model's outcome is a panic (known finding). -/
theorem C18_reflect_new_dynamic_panics (n : Nat) (inn : Msg) (hi : inn.typ ≠ 0) (hd : inn.dyn = true) :
    (Adapter.codec.clone n inn matches .panic) ∧ (Adapter.copyFunc.clone n inn matches .panic) := by
  simp [Adapter.clone, codecClone, copyFuncClone, codecCopy, copyMessage, marshal, unmarshal, reflectNew, isProto, hi, hd]

end Cloner
