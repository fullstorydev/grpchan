/-
  C17 — client interceptors see every call once and wrap transparently.
  Theorems over the InterceptClient model; interceptors are arbitrary functions (they may
  short-circuit, fail, alter options, call onward several times). Which expression supplies the
  `cc` argument and the "both nil" test are facts regenerated from /repo.
-/
import Model.InterceptClient

namespace InterceptClient

theorem intercept_eq (ch : Chan) (u s : Option Interceptor) :
    intercept ch u s = if u.isNone && s.isNone then ch else .wrapped ch u s := by
  simp [intercept, Gen.clientIdentityCond]

/-- With no interceptors the original channel is returned. -/
theorem C17_no_interceptors_identity (ch : Chan) : intercept ch none none = ch := by
  rw [intercept_eq]; rfl

/-- Otherwise unwrapping yields the wrapped channel. -/
theorem C17_unwrap_yields_wrapped (ch : Chan) (u s : Option Interceptor) (h : u.isSome ∨ s.isSome) :
    unwrapOne (intercept ch u s) = some ch := by
  rw [intercept_eq]
  rcases h with h | h
  · obtain ⟨u, rfl⟩ := Option.isSome_iff_exists.mp h
    rfl
  · obtain ⟨s, rfl⟩ := Option.isSome_iff_exists.mp h
    cases u <;> rfl

/-- the root is unchanged by wrapping — at every depth -/
theorem root_intercept (ch : Chan) (u s : Option Interceptor) : root (intercept ch u s) = root ch := by
  rw [intercept_eq]
  split <;> rfl

/-- A unary call through `intercept ch u s`, whatever `u` and `s` are (both absent included); the
    `cc` argument is the root's connection because `Gen.unaryCCUsesUnwrap` holds. -/
theorem invoke_intercept (ch : Chan) (u s : Option Interceptor) (c : Call) :
    invoke (intercept ch u s) c =
      match u with
      | some u => u (grpcId (root ch)) c (invoke ch)
      | none => invoke ch c := by
  rw [intercept_eq]
  cases u <;> cases s <;> rfl

theorem newStream_intercept (ch : Chan) (u s : Option Interceptor) (c : Call) :
    newStream (intercept ch u s) c =
      match s with
      | some s => s (grpcId (root ch)) c (newStream ch)
      | none => newStream ch c := by
  rw [intercept_eq]
  cases u <;> cases s <;> rfl

/-- **Unary calls** go through the unary interceptor exactly as
    `u (root connection or nil) call (onward = the wrapped channel's Invoke)`: once, before the
    wrapped channel, with the call passed unchanged and the interceptor's result returned unchanged.
    A wrapper without a unary interceptor forwards straight to the wrapped channel. -/
theorem C17_client_unary_once (ch : Chan) (u : Interceptor) (s : Option Interceptor) (c : Call) :
    invoke (intercept ch (some u) s) c = u (grpcId (root ch)) c (invoke ch) ∧
    (∀ s', invoke (intercept ch none (some s')) c = invoke ch c) :=
  ⟨invoke_intercept ch (some u) s c, fun s' => invoke_intercept ch none (some s') c⟩

/-- **Stream creation**, symmetrically. -/
theorem C17_client_stream_once (ch : Chan) (u : Option Interceptor) (s : Interceptor) (c : Call) :
    newStream (intercept ch u (some s)) c = s (grpcId (root ch)) c (newStream ch) ∧
    (∀ u', newStream (intercept ch (some u') none) c = newStream ch c) :=
  ⟨newStream_intercept ch u (some s) c, fun u' => newStream_intercept ch (some u') none c⟩

theorem root_foldl_intercept {α} (f g : α → Option Interceptor) (l : List α) (base : Chan) :
    root (l.foldl (fun ch x => intercept ch (f x) (g x)) base) = root base := by
  induction l generalizing base with
  | nil => rfl
  | cons x rest ih => rw [List.foldl_cons, ih, root_intercept]

/-- **The cc argument at any depth**: every interceptor of a stack of wrappers, however deep, is
    handed the underlying standard connection of the *root* channel (nil when the root is not one). -/
theorem C17_cc_argument (base : Chan) (layers : List (Option Interceptor × Option Interceptor)) :
    grpcId (root (layers.foldl (fun ch l => intercept ch l.1 l.2) base)) = grpcId (root base) := by
  rw [root_foldl_intercept]

theorem logPass_apply (st : Bool) (i : Nat) (cc : Option Nat) (c : Call) (inv : Invoker) :
    logPass st i cc c inv = (Ev.int st i cc c :: (inv c).1, (inv c).2) := rfl

/-- Logging pass-through unary interceptors with any layer numbers, stacked on any channel: the
    layers log outermost first, each once and with the root's connection, then comes what the
    channel itself logs; its result is returned. -/
theorem invoke_logPass_stack (ch : Chan) (layers : List Nat) (c : Call) :
    invoke (layers.foldl (fun ch i => intercept ch (some (logPass false i)) none) ch) c
      = ((layers.reverse.map fun i => Ev.int false i (grpcId (root ch)) c) ++ (invoke ch c).1, (invoke ch c).2) := by
  induction layers generalizing ch with
  | nil => rfl
  | cons i rest ih =>
    rw [List.foldl_cons, ih, root_intercept, invoke_intercept]
    simp [logPass_apply]

/-- Exactly once, outermost first: a stack of logging pass-through interceptors (any depth, layer
    `i` logging `i`) produces the log `outermost … innermost, base`, each layer once, each with the
    root's connection. -/
theorem C17_outermost_first (g : Bool) (id : Nat) (c : Call) (n : Nat) :
    invoke ((List.range n).foldl (fun ch i => intercept ch (some (logPass false i)) none) (.base g id)) c
      = (((List.range n).reverse.map fun i => Ev.int false i (grpcId (.base g id)) c) ++ [.base false id c], 0) :=
  invoke_logPass_stack (.base g id) (List.range n) c

/-- non-vacuity: depth 2 over a standard connection, a short-circuit in the outer layer -/
example : invoke (intercept (intercept (.base true 7) (some (logPass false 0)) none) (some (logShort false 1)) none) ⟨1, 0⟩
    = ([.int false 1 (some 7) ⟨1, 0⟩], 1) := by decide

end InterceptClient

namespace InterceptClient

/-- regenerated from intercept.go on every run: the continuation handed to a client interceptor is the
    wrapper's own method value, and that method forwards the call to the wrapped channel with exactly
    the options the interceptor passed — which is what `invoke inner` / `newStream inner` as the
    continuation of the model mean (`C17_client_unary_once`, `C17_client_stream_once`) -/
theorem C17_continuation_facts :
    Gen.clientUnaryContinuation = ("intch.unaryInvoker", "{ return intch.ch.Invoke(ctx, methodName, req, resp, opts...) }") ∧
    Gen.clientStreamContinuation = ("intch.streamer", "{ return intch.ch.NewStream(ctx, desc, methodName, opts...) }") :=
  ⟨rfl, rfl⟩

/-- regenerated from intercept.go: `Invoke` / `NewStream` of the wrapper return the interceptor call itself, so the
    interceptor's results (the error value included) reach the caller untouched — which is what the model's
    `invoke (.wrapped inner (some u) _) c = u … ` (no post-processing of the `Out`) means -/
theorem C17_results_direct_facts : Gen.clientUnaryResultDirect = true ∧ Gen.clientStreamResultDirect = true :=
  ⟨rfl, rfl⟩

/-- whatever an interceptor returns without calling onward is the result of the call, through any wrapper -/
theorem C17_short_circuit_result_unchanged (inner : Chan) (u s : Option Interceptor) (c : Call) (out : Out) :
    invoke (.wrapped inner (some fun _ _ _ => out) s) c = out ∧
    newStream (.wrapped inner u (some fun _ _ _ => out)) c = out :=
  ⟨rfl, rfl⟩

/-- an interceptor that forwards without options reaches the next layer without options, whatever the caller passed -/
theorem C17_dropped_options_stay_dropped (inner : Chan) (s : Option Interceptor) (c : Call) (layer : Nat) :
    invoke (.wrapped inner (some (logDrop false layer)) s) c =
      ((.int false layer (ccOf Gen.unaryCCUsesUnwrap inner) c) :: (invoke inner { c with opts := 0 }).1, (invoke inner { c with opts := 0 }).2) :=
  rfl

/-- an interceptor that forwards under another method name reaches the next layer (and, through any
    number of pass-through layers, the base channel) under that name — unary and stream alike -/
theorem C17_renamed_method_reaches_next (inner : Chan) (u s : Option Interceptor) (c : Call) (layer : Nat) :
    invoke (.wrapped inner (some (logRename false layer)) s) c =
      ((.int false layer (ccOf Gen.unaryCCUsesUnwrap inner) c) :: (invoke inner { c with method := c.method + 1 }).1,
        (invoke inner { c with method := c.method + 1 }).2) ∧
    newStream (.wrapped inner u (some (logRename true layer))) c =
      ((.int true layer (ccOf Gen.streamCCUsesUnwrap inner) c) :: (newStream inner { c with method := c.method + 1 }).1,
        (newStream inner { c with method := c.method + 1 }).2) :=
  ⟨rfl, rfl⟩

/-- witness: the base of a two-layer stack sees the name the outer layer forwarded, not the caller's -/
example : newStream (intercept (intercept (.base false 3) none (some (logPass true 0))) none (some (logRename true 1))) ⟨0, 2⟩
    = ([.int true 1 none ⟨0, 2⟩, .int true 0 none ⟨1, 2⟩, .base true 3 ⟨1, 2⟩], 0) := by decide

end InterceptClient
