/-
  C07 — HTTP framing decodes safely: bounded memory, no panic, truncation is an error.
  Property theorems only (helper lemmas: Proofs/Lemmas/Framing.lean). All statements are over
  arbitrary byte strings / message lists with no bound on length. `Gen.maxMessageSize` and the
  allocation-site guard facts are regenerated from /repo on every run.
-/
import Proofs.Lemmas.Framing

namespace Framing
open Prim

/-- Regenerated fact: every `make([]byte, n)` with a length read off the wire is preceded by a
    size guard no larger than the per-message limit, in all three decoding functions. -/
theorem C07_alloc_sites_guarded :
    ∀ s ∈ Gen.allocSites, s.2.1 = s.2.2.1 ∧ (s.2.1 = 0 ∨ s.2.2.2 ≤ Gen.maxMessageSize) := by
  decide

/-- **Totality / no panic.** The decode loop is a total function whose result does not depend on
    the iteration budget once it exceeds the input length (every iteration consumes ≥ 4 bytes):
    the "out of fuel" branch of the definition is unreachable. The result type has no panic
    outcome: every input yields messages plus a trailer or an error. -/
theorem C07_decode_total (b : Bytes) (e : Ending) (fuel : Nat) (h : b.length < fuel) :
    clientDecodeFuel fuel b e = clientDecode b e :=
  clientDecodeFuel_indep fuel (b.length + 1) b e h (by omega)

/-- **Bounded memory (client).** For every byte string and ending, every allocation the response
    decoder performs is at most the per-message limit. -/
theorem C07_client_alloc_bounded (b : Bytes) (e : Ending) :
    ∀ x ∈ (clientDecode b e).allocs, x ≤ Gen.maxMessageSize := by
  induction b using clientDecode_induction (e := e) with
  | done b o al hs =>
    rw [clientDecode_done hs]
    exact clientStep_done_allocs hs
  | msg b m rest al hs ih =>
    obtain ⟨_, rfl, hle⟩ := clientStep_msg hs
    rw [clientDecode_msg hs]
    intro x hx
    rcases List.mem_append.mp hx with hx | hx
    · rw [List.mem_singleton.mp hx]; exact hle
    · exact ih x hx

/-- **Bounded memory (server).** Same for one `RecvMsg` of the request decoder, in any state. -/
theorem C07_server_alloc_bounded (cs : Bool) (bad : Bytes → Bool) (s : SrvState) (e : Ending) :
    ∀ x ∈ (serverRecv cs bad s e).2.2, x ≤ Gen.maxMessageSize := by
  intro x hx
  unfold serverRecv at hx
  split at hx
  · cases hx
  · split at hx
    · cases hx
    · cases hx
    · next sz rest _ =>
      -- every remaining branch returns what this one `readPayload` allocated
      have hal := readPayload_allocs sz rest e x
      split at hx
      · next hp => rw [hp] at hal; exact hal hx
      · next hp =>
        rw [hp] at hal
        repeat' split at hx
        all_goals exact hal hx

/-- **Nothing fabricated.** For every byte string, the messages the decoder yields, re-framed,
    are exactly a prefix of the input: each is the contiguous slice following its own prefix. -/
theorem C07_client_no_fabrication (b : Bytes) (e : Ending) :
    (clientDecode b e).msgs.flatMap encodeFrame <+: b := by
  induction b using clientDecode_induction (e := e) with
  | done b o al hs =>
    rw [clientDecode_done hs]
    exact List.nil_prefix
  | msg b m rest al hs ih =>
    rw [clientDecode_msg hs, (clientStep_msg hs).1, List.flatMap_cons]
    exact (List.prefix_append_right_inj _).mpr ih

/-- **Round trip.** Every sequence of messages within the size limit, followed by a non-empty
    trailer within the limit, decodes to exactly those messages and that trailer — whatever
    follows, and whatever the ending. -/
theorem C07_roundtrip (ms : List Bytes) (t : Bytes) (e : Ending)
    (hms : ∀ m ∈ ms, m.length ≤ Gen.maxMessageSize) (ht0 : 0 < t.length) (ht : t.length ≤ Gen.maxMessageSize) :
    (clientDecode (encodeStream ms t) e).msgs = ms ∧
    (clientDecode (encodeStream ms t) e).outcome = .trailer t := by
  have h := clientDecode_encodeStream ms t [] e hms ht0 ht
  rw [List.append_nil] at h
  rw [h]
  exact ⟨rfl, rfl⟩

/-- The zero-length trailer is the documented exception: its prefix is `0`, which reads back as an
    empty *message*, not as a trailer. (The server always writes a non-empty `HttpTrailer`:
    an OK status carries the message "OK".) -/
theorem C07_zero_trailer_is_a_message (e : Ending) :
    (clientDecode (encodeTrailer []) e).msgs = [[]] := by
  cases e <;> decide

/-- **Truncation.** A response cut at *any* offset before the end of the final trailer frame is
    never reported as complete: the outcome is an error, and the messages delivered before the cut
    are an intact prefix of those sent. -/
theorem C07_truncation (ms : List Bytes) (t : Bytes) (e : Ending)
    (hms : ∀ m ∈ ms, m.length ≤ Gen.maxMessageSize) (ht0 : 0 < t.length) (ht : t.length ≤ Gen.maxMessageSize)
    (k : Nat) (hk : k < (encodeStream ms t).length) :
    (clientDecode ((encodeStream ms t).take k) e).msgs <+: ms ∧
    ∃ er, (clientDecode ((encodeStream ms t).take k) e).outcome = .err er := by
  unfold encodeStream at hk ⊢
  induction ms generalizing k with
  | nil =>
    -- the cut lies inside the trailer frame
    rw [List.flatMap_nil, List.nil_append] at hk ⊢
    obtain ⟨er, al, hs⟩ := clientStep_take_trailer ht0 ht e hk
    rw [clientDecode_done hs]
    exact ⟨List.nil_prefix, er, rfl⟩
  | cons m ms ih =>
    have hm := hms m List.mem_cons_self
    rw [List.flatMap_cons, List.append_assoc] at hk ⊢
    rw [List.take_append]
    by_cases hfull : (encodeFrame m).length ≤ k
    · -- the first frame is intact: it is delivered, and the cut lies in the rest
      rw [List.take_of_length_le hfull, clientDecode_msg (clientStep_frame m _ e hm)]
      obtain ⟨hp, her⟩ := ih (fun x hx => hms x (List.mem_cons_of_mem m hx)) (k - (encodeFrame m).length)
        (by rw [List.length_append] at hk; omega)
      exact ⟨(List.prefix_cons_inj m).mpr hp, her⟩
    · -- the cut lies inside the first frame: nothing is delivered and the outcome is an error
      rw [show k - (encodeFrame m).length = 0 by omega, List.take_zero, List.append_nil]
      obtain ⟨er, al, hs⟩ := clientStep_take_frame hm e (Nat.lt_of_not_le hfull)
      rw [clientDecode_done hs]
      exact ⟨List.nil_prefix, er, rfl⟩

/-- **Hostile prefixes.** `0x80000000` (whose negation overflows) and any size beyond the limit are
    rejected without allocating anything. -/
theorem C07_hostile_prefix_rejected (rest : Bytes) (e : Ending) :
    (clientDecode ([128, 0, 0, 0] ++ rest) e).allocs = [] ∧
    (clientDecode ([127, 255, 255, 255] ++ rest) e).allocs = [] ∧
    (clientDecode ([255, 255, 255, 255] ++ rest) e).allocs.all (· ≤ 1) = true := by
  simp only [List.cons_append, List.nil_append]
  refine ⟨?_, ?_, ?_⟩
  · -- `-sz` wraps round to `sz < 0`
    have hs : clientStep (128 :: 0 :: 0 :: 0 :: rest) e = .done (.err .negativeSize) [] := by
      rw [clientStep_neg (readSize_cons4 ..) (by decide), readPayload_of_neg (by decide)]; rfl
    rw [clientDecode_done hs]
  · rw [clientDecode_done (clientStep_tooLarge (readSize_cons4 ..) (by decide))]
  · -- a final frame of length 1
    have hs : ∃ o, clientStep (255 :: 255 :: 255 :: 255 :: rest) e = .done o [1] := by
      rw [clientStep_neg (readSize_cons4 ..) (by decide),
        show wrap32 (-i32 255 255 255 255) = (1 : Nat) by decide, readPayload_natCast (by decide)]
      cases readFull 1 rest e <;> exact ⟨_, rfl⟩
    obtain ⟨o, hs⟩ := hs
    rw [clientDecode_done hs]; rfl

/-- **Server: a second request message is rejected** on methods that take a single request
    (joint with C08): with two frames in the body the first `RecvMsg` fails with the
    "sent >1" error, and after a successful first receive every further `RecvMsg` is `EOF`. -/
theorem C07_server_second_request_rejected (bad : Bytes → Bool) (m1 m2 rest : Bytes) (e : Ending)
    (h1 : m1.length ≤ Gen.maxMessageSize) (hb : bad m1 = false) :
    (serverRecv false bad ⟨encodeFrame m1 ++ (encodeFrame m2 ++ rest), 0⟩ e).1 = .error .extraRequest ∧
    (∀ s : SrvState, 0 < s.recvd → (serverRecv false bad s e).1 = .error .eof) := by
  constructor
  · rw [serverRecv_frame false bad m1 (encodeFrame m2 ++ rest) e h1 hb]
    rw [readSize_encodeFrame]; rfl
  · intro s hs
    unfold serverRecv
    rw [if_pos (by simpa using hs)]

/-- **Server round trip**: a request body made of frames within the limit is received as exactly
    those messages, then `EOF`, on a client-streaming method. -/
theorem C07_server_roundtrip (bad : Bytes → Bool) (m : Bytes) (rest : Bytes) (e : Ending)
    (h1 : m.length ≤ Gen.maxMessageSize) (hb : bad m = false) :
    serverRecv true bad ⟨encodeFrame m ++ rest, 0⟩ e = (.ok m, ⟨rest, 1⟩, [m.length]) ∧
    (∀ n, (serverRecv true bad ⟨[], n⟩ .clean).1 = .error .eof) := by
  constructor
  · rw [serverRecv_frame true bad m rest e h1 hb]; rfl
  · intro n; rfl

/-- non-vacuity: a concrete two-message stream -/
example : (clientDecode (encodeStream [[1, 2], []] [9]) .clean).msgs = [[1, 2], []] :=
  (C07_roundtrip [[1, 2], []] [9] .clean (by decide) (by decide) (by decide)).1

/-- regenerated from client.go / io.go: the only tests made on a size preface are the ones the model makes — negative
    (client: the trailer frame; decoder: refuse) and above the per-message limit. In particular a preface of exactly 0 is a
    data frame on the client (an empty message), never the trailer. -/
theorem C07_size_test_facts :
    Gen.clientSizeTests = ["sz < 0", "sz > maxMessageSize"] ∧ Gen.decoderSizeTests = ["sz < 0", "sz > maxMessageSize"] :=
  ⟨rfl, rfl⟩

end Framing
