/-
  C03 — request metadata, response headers and trailers arrive complete and unaltered.
  * base64 (`-bin` values) round trip for every byte string; header-safe output
  * metadata → HTTP headers → metadata, per key with any number of values
  * in-process streams: Header()/Trailer() are exactly the frames taken; trailers are complete with the final status / io.EOF; setting
    headers after they were sent fails
  * in-process unary: a call that reports success has delivered every header and trailer
  (net/http's own treatment of header values — canonicalisation, trimming — is external.)
-/
import Proofs.Lemmas.Metadata
import Proofs.Lemmas.InprocAll
import Proofs.Lemmas.InprocUnaryAll
import Proofs.Lemmas.HttpServerStream
import Proofs.Lemmas.HttpUnary
import Model.TrailerSplit

namespace Metadata

/-- **`-bin` values are byte-exact**: every byte string (any length, any bytes, 0x00 / 0x0A / 0xFF
    included) survives encode-then-decode with the padded URL alphabet both sites use. -/
theorem C03_b64_roundtrip (bs : B) (h : ∀ x ∈ bs, x < 256) : b64dec (b64enc bs) = some bs :=
  b64_roundtrip bs h

/-- the encoded form contains only printable, header-safe ASCII -/
theorem C03_b64_header_safe (bs : B) : ∀ x ∈ b64enc bs, 32 < x ∧ x < 128 := by
  fun_induction b64enc bs <;> simp_all [enc6_safe, pad]

/-- the encode site (`toHeaders`) and the decode site (`asMetadata`) use the same, padded URL
    variant — regenerated from the source on every run -/
theorem C03_codec_sites : sitesPaired = true := by decide

/-- **Multi-valued keys keep all values in order, `-bin` values byte-exact**: for a lower-case,
    non-reserved key with any number of values, `asMetadata (toHeaders {k: vs})` is `{k: vs}`. -/
theorem C03_md_key_roundtrip (k : B) (vs : List B) (hne : vs ≠ []) (hl : lower k = k) (hr : isReserved k = false)
    (hvs : isBin k = true → ∀ v ∈ vs, ∀ x ∈ v, x < 256) :
    asMetadata (toHeaders [(k, vs)] []) = some [(k, vs)] :=
  md_roundtrip [(k, vs)] ⟨by simp [keysOf], by simpa using ⟨hl, hr, hne, hvs⟩⟩

/-- **Whole metadata maps survive the header encoding**: for any number of keys (distinct, lower-case,
    not reserved), each with any number of values, `-bin` values arbitrary byte strings, plain values
    any bytes: decoding the header lines `toHeaders` emits gives back every key with all its values in
    order (`md.reverse`: the same map — the order of *keys* is not observable in a Go map). -/
theorem C03_md_roundtrip (md : MD) (h : WF md) : asMetadata (toHeaders md []) = some md.reverse :=
  md_roundtrip md h

/-- non-vacuity: two keys, one of them `-bin` with two values -/
example : WF [([97], [[1, 2]]), ([116, 45, 98, 105, 110], [[0, 10, 255], [7]])] := by
  unfold WF; decide +kernel

/-- reserved keys are dropped by the transport (documented: they belong to HTTP itself) -/
theorem C03_reserved_dropped (k : B) (vs : List B) (hr : isReserved k = true) : toHeaders [(k, vs)] [] = [] := by
  simp [toHeaders, hr]

example : b64enc [0, 10, 255, 7] = [65, 65, 114, 95, 66, 119, 61, 61] ∧ b64dec (b64enc [0, 10, 255, 7]) = some [0, 10, 255, 7] := by decide

/-- non-vacuity of the key round trip: a `-bin` key with two values, one of them of length 1 (padding) -/
example : asMetadata [([116, 45, 98, 105, 110], b64enc [0, 10, 255]), ([116, 45, 98, 105, 110], b64enc [7])] =
    some [([116, 45, 98, 105, 110], [[0, 10, 255], [7]])] := by decide

end Metadata

namespace InprocStream

/-- the frame orders of `finish` and of the unary server goroutine, regenerated from the source:
    headers first, trailers before the error -/
theorem C03_frame_order_facts :
    Gen.finishFrameOrder = ["headers", "trailers", "err"] ∧ Gen.unaryFrameOrder = ["headers", "data", "trailers", "err"] := by
  decide

/-- **Header() and Trailer() are exactly the frames taken**: with a live context, in every reachable
    state the client's `Header()` holds the metadata of the (last) headers frame it has taken off the
    channel and `Trailer()` that of the trailers frame — nothing dropped, nothing altered, values in
    order. (That the handler's header frame precedes every other frame and carries everything the
    handler set is `C03_headers_before_first_message`.) -/
theorem C03_client_metadata_is_frames (c1 c2 : Nat) (rs : Bool) (s : St) (h : Reachable c1 c2 rs s)
    (hctx : s.ctx = none) : s.cHeaders = hdrOf s.respDeq ∧ s.cTrailers = tlrOf s.respDeq :=
  have hv := (inv_reachable c1 c2 rs s h).view
  ⟨hv.cH hctx, hv.cT hctx⟩

theorem tlrOf_append_err (a : List Frame) (e : HErr) : tlrOf (a ++ [Frame.err e]) = tlrOf a := by simp

/-- **Trailers no later than the final status.** With a live context, at the moment the client's
    RecvMsg takes the error frame (and returns the handler's status), `Trailer()` already holds
    exactly the trailers the handler set — all of them, in order. -/
theorem C03_trailers_with_final_status (c1 c2 : Nat) (rs : Bool) (s : St) (h : Reachable c1 c2 rs s)
    (hctx : s.ctx = none) (e : HErr) (rest : List Frame) (hr : s.resp = .err e :: rest) :
    s.cTrailers = s.tlrAll := by
  have hi := inv_reachable c1 c2 rs s h
  have hq := hi.deq_reply hctx
  rw [hr, List.cons_append] at hq
  -- the error frame is the last frame of the reply, so what the client has taken is all the rest
  have hrest := errThenMore_mid _ _ _ (hq ▸ errThenMore_reply s)
  have hret : s.hRet.isSome = true := by simp [(mem_reply_err s e).mp (hq ▸ by simp)]
  rw [hi.view.cT hctx, ← tlrOf_reply s hret, ← hq, hrest, tlrOf_append_err]

/-- **…and with a clean end**: when the client's RecvMsg sees the closed, drained channel (io.EOF
    — the call reports success), `Trailer()` holds every trailer the handler set. -/
theorem C03_success_has_all_trailers (c1 c2 : Nat) (rs : Bool) (s : St) (h : Reachable c1 c2 rs s)
    (hctx : s.ctx = none) (hr : s.resp = []) (hcl : s.respClosed = true) : s.cTrailers = s.tlrAll := by
  have hi := inv_reachable c1 c2 rs s h
  obtain ⟨hret, hq⟩ := hi.clean_end hctx hr hcl
  rw [hi.view.cT hctx, hq, tlrOf_reply s (hi.base.hret ▸ hret)]

/-- With a live context, once the client has taken any frame at all off the channel, `Header()` holds exactly
    the metadata of the handler's successful SetHeader / SendHeader calls: the header frame, if there is one, is
    the first frame of the reply and the only one of its kind, and it carries `hdrAll`. -/
theorem headers_once_a_frame_is_taken (c1 c2 : Nat) (rs : Bool) (s : St) (h : Reachable c1 c2 rs s)
    (hctx : s.ctx = none) (hne : s.respDeq ≠ []) : s.cHeaders = s.hdrAll := by
  have hi := inv_reachable c1 c2 rs s h
  have hq := hi.deq_reply hctx
  rw [hi.view.cH hctx]
  -- a frame has been written, so the header block is committed
  have hc : committed s = true := by
    cases hc : committed s with
    | true => rfl
    | false => rw [hi.reply_nil hctx hc] at hq; exact absurd (List.append_eq_nil_iff.mp hq).1 hne
  rcases reply_hdr s hc with ⟨e1, e2⟩ | e2 <;> rw [← hq] at e2
  · rw [e1]; simp at e2; exact hdrOf_nHdr _ e2.1
  · exact hdrOf_hdrHead _ _ (hdrHead_prefix _ _ _ e2 hne)

/-- **Headers no later than the first message (or any later frame).** With a live context, once the
    client has taken *any* frame other than the headers frame off the channel — a message, the
    trailers, the final status — `Header()` holds exactly the metadata of the handler's successful
    SetHeader / SendHeader calls, all of them, in order: the header frame is the first frame of the
    stream and the only one of its kind, for every interleaving of handler and client. -/
theorem C03_headers_before_first_message (c1 c2 : Nat) (rs : Bool) (s : St) (h : Reachable c1 c2 rs s)
    (hctx : s.ctx = none) (f : Frame) (hf : f ∈ s.respDeq) (hnh : isHdr f = false) : s.cHeaders = s.hdrAll :=
  headers_once_a_frame_is_taken c1 c2 rs s h hctx (List.ne_nil_of_mem hf)

/-- **…and with a clean end**: when the client sees the closed, drained channel, `Header()` holds every
    header the handler set (also when nothing at all was sent). -/
theorem C03_success_has_all_headers (c1 c2 : Nat) (rs : Bool) (s : St) (h : Reachable c1 c2 rs s)
    (hctx : s.ctx = none) (hr : s.resp = []) (hcl : s.respClosed = true) : s.cHeaders = s.hdrAll := by
  have hi := inv_reachable c1 c2 rs s h
  obtain ⟨hret, hq⟩ := hi.clean_end hctx hr hcl
  rw [hi.view.cH hctx, hq]
  rcases reply_hdr s (by simp [committed, hret]) with ⟨e1, e2⟩ | e2
  · rw [e1]; exact hdrOf_nHdr _ e2
  · exact hdrOf_hdrHead _ _ e2

/-- **Setting headers after they were sent fails** (in-process stream): once a header frame or a
    message has gone out, SetHeader and SendHeader return an error and change nothing. -/
theorem C03_set_header_after_send_fails (s : St) (md : Nat) (hst : s.sState ≠ 0) (hw : s.sWrite = none) (hr : s.sReturned = false) :
    step s (.sSetHeader md) = some (s, [.ret .h .plainErr]) ∧ step s (.sSendHeader md) = some (s, [.ret .h .plainErr]) := by
  simp [step, hw, hr, hst]

end InprocStream

namespace InprocUnary
open InprocStream (Reason HErr Res codeOf translate)

/-- **A call that reports success has delivered all of them** (unary): nil from `Invoke` implies the
    grpc.Header / grpc.Trailer targets hold every header and every trailer the handler set — for
    every interleaving of the server goroutine's frame writes with the cancellation instant (the
    'success with missing trailers' defect repaired by 313140f is `C04_old_code_mixture`). -/
theorem C03_unary_success_has_all_metadata (cap : Nat) (s : St) (h : Reachable cap s) (hr : s.result = some .ok) :
    s.cHdr = mdOpt s.hHdr ∧ s.cTlr = mdOpt s.hTlr := by
  obtain ⟨_, _, _, h3, h4⟩ := complete_of_ok cap s h hr
  exact ⟨h3, h4⟩

/-- setting headers after SendHeader fails (UnaryServerTransportStream) -/
theorem C03_unary_set_header_after_send_fails (s : St) (md : Nat) (hpc : s.pc = 0) (hrd : s.reading = false) (hs : s.hdrsSent = true) :
    step s (.hSetHeader md) = some (s, [.ret .h .plainErr]) ∧ step s (.hSendHeader md) = some (s, [.ret .h .plainErr]) := by
  simp [step, hpc, hrd, hs]

end InprocUnary

namespace HttpServerStream
open InprocStream (HErr Reason Res codeOf)

/-- **HTTP server streams: headers and trailers reach the wire complete and in place.** For every
    request body, every handler program `acts` (any mix of SetHeader / SendHeader / SetTrailer /
    SendMsg / RecvMsg, encodable or not) with results `rs`, and every return value `e`: if the
    connection held, the reply is the header block carrying exactly the metadata of the
    SetHeader/SendHeader calls that returned nil, then data frames only, then one trailer frame
    carrying every SetTrailer metadata in call order — together with the final status. -/
theorem C03_http_server_reply_metadata (cs : Bool) (req : List ReqItem) (acts : List Act) (s1 : St) (rs : List Res)
    (e : Option HErr) (s : St) (r : Res) (h1 : run (init cs req) acts = some (s1, rs)) (h2 : step s1 (.ret e) = some (s, r))
    (hw : s.writeFailed = false) (hc : s.connBroken = false) :
    ∃ fs, allData fs = true ∧ s.wire = .head (okHdr acts rs) :: (fs ++ [.trailer (trailerCode e) (trailersSet acts)]) :=
  reply_complete cs req acts s1 rs e s r h1 h2 hw hc

/-- once the header block is committed (SendHeader or the first SendMsg), SetHeader and SendHeader
    fail and change nothing -/
theorem C03_http_server_set_header_after_send_fails (s : St) (md : Nat) (hf : s.finished = false) (hs : s.headersSent = true) :
    step s (.setHeader md) = some (s, .plainErr) ∧ step s (.sendHeader md) = some (s, .plainErr) := by
  simp [step, stepLive, hf, hs]

/-- in every reachable state the header block on the wire is the successfully set metadata -/
theorem C03_http_server_header_block (cs : Bool) (req : List ReqItem) (acts : List Act) (s : St) (rs : List Res)
    (h : run (init cs req) acts = some (s, rs)) (h' : List Nat) (fs : List Out) (hw : s.wire = .head h' :: fs) :
    h' = okHdr acts rs := by
  obtain ⟨hi, -, -, hh, -⟩ := run_init h
  have := hi.head (by rw [hi.hw, hw]; rfl)
  rw [hw, hh] at this
  exact Out.head.inj (Option.some.inj this)

-- non-vacuity: a handler that sets a header, sends, sets two trailers and fails with code 5
example : (run (init true [.data 7 true]) [.recv, .setHeader 1, .send 9 true, .setHeader 2, .setTrailer 3, .setTrailer 4, .ret (some (.status 5))]).map (·.1.wire) =
    some [.head [1], .data 9, .trailer 5 [3, 4]] := by decide

end HttpServerStream

namespace HttpUnary
open InprocStream (HErr Reason Res codeOf)

/-- **Unary calls over HTTP deliver all metadata, on success and on failure alike**: for every handler
    program (any mix of SetHeader / SendHeader / SetTrailer) and every outcome (a response, a response
    that cannot be marshalled, any error), the caller's `grpc.Header` target ends up with exactly the
    metadata of the calls that returned nil and the `grpc.Trailer` target with every SetTrailer
    metadata, in call order. -/
theorem C03_http_unary_metadata (ops : List HOp) (ret : Ret) (ctxDone : Bool) :
    (client (serve ops ret ctxDone).1).hdr = okHdr ops (serve ops ret ctxDone).2 ∧
    (client (serve ops ret ctxDone).1).tlr = trailersSet ops := by
  rcases ret with ⟨m, _ | _⟩ | e <;> simpa [serve, client, Gen.unaryClientMetadataBeforeStatus] using runOps_facts ops {}

/-- SetHeader / SendHeader after SendHeader fail and change nothing -/
theorem C03_http_unary_set_header_after_send_fails (s : Sts) (md : Nat) (h : s.hdrsSent = true) :
    hstep s (.setHeader md) = (s, .plainErr) ∧ hstep s (.sendHeader md) = (s, .plainErr) := by
  simp [hstep, h]

example : client (serve [.setHeader 1, .sendHeader 2, .setHeader 3, .setTrailer 4] (.err (.status 5)) false).1 =
    { result := .status 5, hdr := [1, 2], tlr := [4] } := by decide

end HttpUnary

namespace HttpUnary

/-- regenerated from the source: `handleMethod` writes headers and trailers before it looks at the
    handler's error, and `Channel.Invoke` copies them to the call options before it looks at the status -/
theorem C03_http_unary_order_facts :
    Gen.unaryMetadataBeforeOutcome = true ∧ Gen.unaryClientMetadataBeforeStatus = true := by decide

end HttpUnary

namespace Metadata

/-- regenerated from httpgrpc/io.go: `asMetadata` does nothing to a header value but base-64-decode a `-bin` one and
    append it — it never splits, trims or joins values (the functions it calls, sorted). This is what the model's
    per-value decoding (`md_roundtrip`) assumes of the decoder's control flow. -/
theorem C03_as_metadata_keeps_values_whole :
    Gen.asMetadataCalls = ["DecodeString", "HasSuffix", "ToLower", "append", "string"] := by decide

end Metadata

namespace TrailerSplit
open Prim

theorem isTrailerKey_pfx_append (k : Key) (hk : k ≠ []) : isTrailerKey (pfx ++ k) = true := by
  simp [isTrailerKey, hk]

/-- `filter` takes apart again what was put together from a part where `p` fails and a part where it holds -/
theorem filter_append_split {α} (p : α → Bool) {a b : List α} (ha : ∀ x ∈ a, p x = false) (hb : ∀ x ∈ b, p x = true) :
    (a ++ b).filter (fun x => !p x) = a ∧ (a ++ b).filter p = b := by
  constructor
  · rw [List.filter_append, List.filter_eq_self.mpr (by simpa using ha), List.filter_eq_nil_iff.mpr (by simpa using hb),
      List.append_nil]
  · rw [List.filter_append, List.filter_eq_nil_iff.mpr (by simpa using ha), List.filter_eq_self.mpr hb, List.nil_append]

/-- **Headers and trailers of a unary HTTP reply come apart again exactly** — for every header map and every trailer map
    (any number of keys, any values), as long as no *header* key lies under the protocol's own trailer prefix and no trailer
    key is empty: the client's headers are the handler's headers, the client's trailers the handler's trailers.
    (`_partial`: without the hypothesis on header keys the statement is false — next theorem; same root as known finding
    C02-F2 / C14-F1, the reply's header block is one name space shared by protocol and application.) -/
theorem C03_unary_trailer_split_roundtrip_partial (h t : MD)
    (hh : ∀ kv ∈ h, isTrailerKey kv.1 = false) (ht : ∀ kv ∈ t, kv.1 ≠ []) :
    clientHeaders (serverMerge h t) = h ∧ clientTrailers (serverMerge h t) = t := by
  have hp : ∀ kv ∈ t.map (fun kv => (pfx ++ kv.1, kv.2)), isTrailerKey kv.1 = true :=
    List.forall_mem_map.mpr fun kv hkv => isTrailerKey_pfx_append kv.1 (ht kv hkv)
  obtain ⟨h1, h2⟩ := filter_append_split (fun kv : Key × List Nat => isTrailerKey kv.1) hh hp
  refine ⟨h1, ?_⟩
  rw [clientTrailers, serverMerge, h2, List.map_map]
  exact List.map_id'' (fun kv => by simp) t

/-- the excluded case is real: header metadata under `x-grpc-trailer-k` reaches the caller as *trailer* `k` -/
theorem C03_unary_header_under_trailer_prefix_becomes_trailer :
    clientTrailers (serverMerge [(pfx ++ [107], [1])] []) = [([107], [1])] ∧
    clientHeaders (serverMerge [(pfx ++ [107], [1])] []) = [] := by
  decide +kernel

/-- server and client agree on the prefix up to the case the client folds away (regenerated from both files) -/
theorem C03_trailer_prefix_sites : Prim.toLower (Prim.str Gen.trailerPrefixServer) = Prim.str Gen.trailerPrefixClient := by
  decide +kernel

/-- non-vacuity: two headers, two trailers (one multi-valued) -/
example : clientHeaders (serverMerge [([97], [1]), ([98], [2, 3])] [([99], [4]), ([100], [5, 6])]) = [([97], [1]), ([98], [2, 3])] ∧
    clientTrailers (serverMerge [([97], [1]), ([98], [2, 3])] [([99], [4]), ([100], [5, 6])]) = [([99], [4]), ([100], [5, 6])] :=
  C03_unary_trailer_split_roundtrip_partial _ _ (by decide +kernel) (by decide)

end TrailerSplit
