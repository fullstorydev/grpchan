/-
  C13 — per-RPC credentials never cross an insecure transport; peer info is reported.
  Property theorems over the Creds model. The `isChannelSecure` expressions and the source of the
  peer's TLS state at each call site are facts regenerated from /repo.
-/
import Model.Creds

namespace Creds
open Prim

/-- **Insecure blocks.** Credentials that require transport security on a channel that is not secure:
    the call fails, and the credential is not even consulted (so no request is issued). -/
theorem C13_insecure_blocks (c : PerRPC) (outgoing : Option MD) (h : c.requireSecurity = true) :
    apply (some c) false outgoing = .error 0 := by
  simp [apply, h]

/-- …and at the HTTP call sites "secure" means exactly scheme = https; in-process is always secure. -/
theorem C13_secure_iff_https (scheme : String) :
    secureOf Gen.httpUnarySecureExpr scheme = (scheme == "https") ∧
    secureOf Gen.httpStreamSecureExpr scheme = (scheme == "https") ∧
    secureOf Gen.inprocUnarySecureExpr scheme = true ∧
    secureOf Gen.inprocStreamSecureExpr scheme = true := by
  simp [secureOf, Gen.httpUnarySecureExpr, Gen.httpStreamSecureExpr, Gen.inprocUnarySecureExpr,
    Gen.inprocStreamSecureExpr]

/-- A credential error fails the call. -/
theorem C13_creds_error_propagates (c : PerRPC) (secure : Bool) (outgoing : Option MD)
    (h : c.result = none) : ∃ n, apply (some c) secure outgoing = .error n := by
  simp only [apply, h]
  split
  · exact ⟨0, rfl⟩
  · exact ⟨1, rfl⟩

theorem get_append (a b : MD) (k : Bytes) : MD.get (a ++ b) k = MD.get a k ++ MD.get b k := by
  simp [MD.get, List.filter_append, List.flatMap_append]

/-- What the call proceeds with once the credential has answered: its metadata joined behind the
    caller's, or the caller's context untouched if it has none to add. -/
theorem apply_of_result (c : PerRPC) (secure : Bool) (outgoing : Option MD) (m : List (Bytes × Bytes))
    (hs : (c.requireSecurity && !secure) = false) (hr : c.result = some m) :
    apply (some c) secure outgoing =
      .ok (if m.isEmpty then outgoing else some (mdJoin (outgoing.getD []) (mdNew m))) 1 := by
  simp only [apply, hs, hr, Bool.false_eq_true, ↓reduceIte]
  split
  · rfl
  · cases outgoing <;> rfl

/-- **Merged.** Whenever the call proceeds, for *every* key the handler-visible values are the
    caller's own values (in order) followed by the credential's values for that key (credential keys
    lower-cased); nothing is dropped or overwritten. -/
theorem C13_creds_merged (c : PerRPC) (secure : Bool) (outgoing : Option MD) (m : List (Bytes × Bytes))
    (hs : (c.requireSecurity && !secure) = false) (hr : c.result = some m) (k : Bytes) :
    ∃ out n, apply (some c) secure outgoing = .ok out n ∧
      MD.get (out.getD []) k = MD.get (outgoing.getD []) k ++ MD.get (mdNew m) k := by
  refine ⟨_, 1, apply_of_result c secure outgoing m hs hr, ?_⟩
  cases m with
  | nil => simp [mdNew, MD.get]
  | cons => simp [mdJoin, get_append]

/-- No credentials: the outgoing metadata is untouched. -/
theorem C13_no_creds_identity (secure : Bool) (outgoing : Option MD) :
    apply none secure outgoing = .ok outgoing 0 := rfl

/-- **Peer TLS**: the peer option carries TLS authentication info iff the connection uses TLS,
    for unary and streaming calls alike. -/
theorem C13_peer_tls (connTLS : Bool) :
    peerHasTLS Gen.unaryPeerTLSFrom connTLS = connTLS ∧ peerHasTLS Gen.streamPeerTLSFrom connTLS = connTLS := by
  simp [peerHasTLS, Gen.unaryPeerTLSFrom, Gen.streamPeerTLSFrom]

/-- non-vacuity -/
example : apply (some ⟨false, some [([75], [1])]⟩) false (some [([107], [[2]])]) = .ok (some [([107], [[2]]), ([107], [[1]])]) 1 := by decide

end Creds

namespace Creds

/-- regenerated from httpgrpc/client.go: the peer call option is filled in before the reply's status is examined, in
    `Invoke` and in `doHttpCall` alike — so it is set for calls the server answered with a non-OK status too -/
theorem C13_peer_set_before_status : Gen.unaryPeerBeforeStatus = true ∧ Gen.streamPeerBeforeStatus = true :=
  ⟨rfl, rfl⟩

end Creds
