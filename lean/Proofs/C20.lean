/-
  C20 — in-process streams apply backpressure with a small fixed buffer.
  Invariants of the InprocStream transition system, for every reachable state: any number of
  attempted sends, every interleaving of the client sender, client receiver, handler and the
  cancellation instant; stated for arbitrary channel capacities and instantiated with the
  capacities regenerated from the source.
-/
import Proofs.Lemmas.InprocAll

namespace InprocStream

/-- The property's "one buffered message per direction": both frame channels have capacity 1
    (facts regenerated from `make(chan frame, n)` in NewStream). -/
theorem C20_cap_is_one : Gen.capReq = 1 ∧ Gen.capResp = 1 := by decide

/-- **Sends ahead are bounded**, in every reachable state, for any number of attempted sends:
    the client's completed sends never exceed what the handler has dequeued by more than the
    request buffer's capacity, and the handler's completed sends never exceed the data frames the
    client has dequeued by more than the response buffer's capacity. -/
theorem C20_sends_ahead_bounded (c1 c2 : Nat) (rs : Bool) (s : St) (h : Reachable c1 c2 rs s) :
    s.sendsDone ≤ s.reqDeq.length + s.capReq ∧ s.sSendsDone ≤ dataCount s.respDeq + s.capResp := by
  obtain ⟨h1, h2, h3, h4, _⟩ := (inv_reachable c1 c2 rs s h).cap
  have := dataCount_le_length s.resp
  omega

/-- …with the code's capacities: at most one message ahead per direction. -/
theorem C20_one_message_ahead (rs : Bool) (s : St) (h : Reachable Gen.capReq Gen.capResp rs s) :
    s.sendsDone ≤ s.reqDeq.length + 1 ∧ s.sSendsDone ≤ dataCount s.respDeq + 1 := by
  have hp := reachable_params _ _ rs s h
  have := C20_sends_ahead_bounded _ _ rs s h
  rwa [hp.1, hp.2.1, C20_cap_is_one.1, C20_cap_is_one.2] at this

/-- **A further send blocks**: with a full buffer, a live context and the peer still running, none
    of the sender's completions is enabled — the pending `SendMsg` cannot return. -/
theorem C20_blocked_when_full (s : St) (m : Nat) (hp : s.cSend = some m) (hfull : s.req.length = s.capReq)
    (hctx : s.ctx = none) (hrem : s.svrDone = false ∧ s.svrExited = false) :
    step s .cSendEnq = none ∧ step s .cSendCtx = none ∧ step s .cSendRemote = none := by
  refine ⟨?_, ?_, ?_⟩
  · simp [step, hp, hfull]
  · simp [step, hp, hctx]
  · simp [step, hp, remoteDone, svrCtxDone, hctx, hrem.1, hrem.2]

/-- **…until the peer receives, the peer finishes, or the context ends**: any action after which
    the blocked sender can complete is a receive by the handler, the handler's return (or exit), or
    a cancellation / deadline. -/
theorem C20_blocked_until (s s' : St) (a : Act) (evs : List Ev) (m : Nat)
    (hp : s.cSend = some m) (hfull : s.req.length = s.capReq) (hctx : s.ctx = none)
    (hrem : s.svrDone = false ∧ s.svrExited = false)
    (hs : step s a = some (s', evs))
    (hen : (step s' .cSendEnq).isSome ∨ (step s' .cSendCtx).isSome ∨ (step s' .cSendRemote).isSome) :
    a = .sRecvTake ∨ (∃ e, a = .sReturn e) ∨ (∃ r, a = .cancel r) ∨ a = .sFinishEnd := by
  cases a <;> invert hs [step, finishWrite] <;> simp_all [step, remoteDone, svrCtxDone]

/-- **Memory held by a stalled stream is a constant number of messages**: per direction at most
    the buffer, one message in a pending send and one peeked message. -/
theorem C20_held_messages_bounded (c1 c2 : Nat) (rs : Bool) (s : St) (h : Reachable c1 c2 rs s) :
    s.req.length + (if s.cSend.isSome then 1 else 0) ≤ s.capReq + 1 ∧
    s.resp.length + (if s.last.isSome then 1 else 0) + (match s.sWrite with | some p => p.frames.length | none => 0)
      ≤ s.capResp + 1 + (match s.sWrite with | some p => p.frames.length | none => 0) := by
  obtain ⟨h1, h2, _⟩ := (inv_reachable c1 c2 rs s h).cap
  constructor
  · split <;> omega
  · split <;> split <;> omega

/-- non-vacuity: two sends with no receive — the first completes, the second is pending and blocked -/
example : ∃ s, run (init 1 1 true) [.cSendBegin 1, .cSendEnq, .cSendBegin 2] = some s ∧
    s.sendsDone = 1 ∧ s.cSend = some 2 ∧ step s .cSendEnq = none := by
  exact ⟨_, rfl, rfl, rfl, rfl⟩

end InprocStream
