/-
  C19 — generated stubs bind each method to its own path and stream descriptor.
  Theorems over the Stubgen model for every service: any number and interleaving of the four
  method kinds. The branch table and counter placement are regenerated from the plugin's source.
-/
import Model.Stubgen

namespace Stubgen
open Prim

/-- what the regenerated branch table does for each of the four method kinds -/
theorem branch_facts (m : Method) :
    (branchOf m).2.1 = m.streaming ∧                      -- increments the counter iff streaming
    (branchOf m).2.2.2.2.1 = m.streaming ∧                -- indexes Streams iff streaming
    (branchOf m).2.2.2.1 = "/{{.ServiceName}}/{{.MethodName}}" ∧
    shapeOf (branchOf m) = (if m.cs then .stream else if m.ss then .sstream else .unary) := by
  obtain ⟨n, cs, ss⟩ := m
  cases cs <;> cases ss <;> simp [branchOf, Gen.stubBranches, condHolds, shapeOf, Method.streaming]

/-- the stub of method `m` of service `svc` when `before` streaming methods are declared before it -/
def bindingOf (svc : Bytes) (before : Nat) (m : Method) : Binding :=
  { name := m.name,
    shape := if m.cs then .stream else if m.ss then .sstream else .unary,
    path := [47] ++ svc ++ [47] ++ m.name,
    index := if m.streaming then (before : Int) else -1 }

theorem bindingsFrom_nil (svc : Bytes) (cnt : Nat) : bindingsFrom svc cnt [] = [] := rfl

/-- one turn of the loop, with the branch table evaluated -/
theorem bindingsFrom_cons (svc : Bytes) (cnt : Nat) (m : Method) (rest : List Method) :
    bindingsFrom svc cnt (m :: rest) =
      bindingOf svc cnt m :: bindingsFrom svc (if m.streaming then cnt + 1 else cnt) rest := by
  obtain ⟨f1, f2, f3, f4⟩ := branch_facts m
  simp [bindingsFrom, bindingOf, pathOf, f1, f2, f3, f4]

theorem bindingsFrom_length (svc : Bytes) (cnt : Nat) (ms : List Method) :
    (bindingsFrom svc cnt ms).length = ms.length := by
  induction ms generalizing cnt with
  | nil => rfl
  | cons m rest ih => simp [bindingsFrom, ih]

/-- the loop invariant, with the counter generalised -/
theorem bindingsFrom_get (svc : Bytes) (cnt : Nat) (ms : List Method) (i : Nat) (hi : i < ms.length) :
    (bindingsFrom svc cnt ms)[i]? =
      some (bindingOf svc (cnt + ((ms.take i).filter Method.streaming).length) ms[i]) := by
  induction ms generalizing cnt i with
  | nil => simp at hi
  | cons m rest ih =>
    rw [bindingsFrom_cons]
    cases i with
    | zero => simp
    | succ k =>
      rw [List.getElem?_cons_succ, ih _ k (Nat.lt_of_succ_lt_succ hi)]
      simp only [List.take_succ_cons, List.filter_cons, List.getElem_cons_succ]
      cases m.streaming
      · simp
      · simp [Nat.add_right_comm cnt 1, Nat.add_assoc]

/-- **Stream index.** For every service and every method position `i`: a streaming method is bound
    to index = the number of streaming methods declared before it, which is its own position in the
    service's `Streams` slice (the streaming methods in declaration order); a unary method indexes
    nothing. -/
theorem C19_stream_index_correct (svc : Bytes) (ms : List Method) (i : Nat) (hi : i < ms.length) :
    ∃ b, (bindings svc ms)[i]? = some b ∧
      (ms[i].streaming = true →
          b.index = (((ms.take i).filter Method.streaming).length : Nat) ∧
          (ms.filter Method.streaming)[((ms.take i).filter Method.streaming).length]? = some ms[i]) ∧
      (ms[i].streaming = false → b.index = -1) := by
  refine ⟨_, bindingsFrom_get svc 0 ms i hi, fun hs => ⟨by simp [bindingOf, hs], ?_⟩,
    fun hs => by simp [bindingOf, hs]⟩
  -- `ms[i]` passes the filter and stands right behind what the filter keeps of `ms.take i`
  have hf : ms.filter Method.streaming
      = (ms.take i).filter Method.streaming ++ ms[i] :: (ms.drop (i + 1)).filter Method.streaming := by
    rw [← List.filter_cons_of_pos hs, ← List.filter_append, List.getElem_cons_drop, List.take_append_drop]
  rw [hf]
  simp

/-- **Path.** Every stub calls "/<full service name>/<method>". -/
theorem C19_path_correct (svc : Bytes) (ms : List Method) (i : Nat) (hi : i < ms.length) :
    ∃ b, (bindings svc ms)[i]? = some b ∧ b.name = ms[i].name ∧ b.path = [47] ++ svc ++ [47] ++ ms[i].name :=
  ⟨_, bindingsFrom_get svc 0 ms i hi, rfl, rfl⟩

/-- **Shape.** Unary methods call `Invoke`; server-streaming methods open a stream, send the request
    and close the send side; client-streaming and bidi methods just open the stream. -/
theorem C19_shape_correct (svc : Bytes) (ms : List Method) (i : Nat) (hi : i < ms.length) :
    ∃ b, (bindings svc ms)[i]? = some b ∧
      b.shape = (if ms[i].cs then .stream else if ms[i].ss then .sstream else .unary) :=
  ⟨_, bindingsFrom_get svc 0 ms i hi, rfl⟩

/-- **Per service**: every service of a file starts counting at zero, so the indices of one service
    never depend on the services declared before it. -/
theorem C19_register_per_service (svcs : List (Bytes × List Method)) (cnt : Nat) :
    fileBindings cnt svcs = svcs.map fun s => bindings s.1 s.2 := by
  induction svcs generalizing cnt with
  | nil => rfl
  | cons s rest ih => simp [fileBindings, Gen.counterResetPerService, bindings, ih]

/-- non-vacuity: `[unary, server-stream, unary, bidi]` gets indices `-1, 0, -1, 1` -/
example : (bindings [115] [⟨[97], false, false⟩, ⟨[98], false, true⟩, ⟨[99], false, false⟩, ⟨[100], true, true⟩]).map (·.index)
    = [-1, 0, -1, 1] := by
  simp [bindings, bindingsFrom_cons, bindingsFrom_nil, bindingOf, Method.streaming]

theorem request_shape : requestShapeAsModelled = true := by
  simp [requestShapeAsModelled, Gen.codegenLoops, Gen.codegenLoopPlainExits, Gen.stubgenNoServices]

/-- the outputs of a request, the extracted loop shape being the one modelled: a file's stubs are its
    services' bindings, each counted from zero -/
theorem requestOutputs_eq (files : List File) :
    requestOutputs files =
      (files.filter fun f => !f.2.isEmpty).map fun f => (f.1, f.2.map fun s => bindings s.1 s.2) := by
  simp only [requestOutputs, request_shape, if_true, C19_register_per_service]

/-- **Every file that declares a service gets its stubs, and they depend on that file alone** — whatever else the request
    holds and wherever the file stands in it: files without services before or after it, files it imports, files that
    import it. (The package-override pre-pass runs over all files before the first stub is generated — regenerated.) -/
theorem C19_file_output_independent_of_request (pre post : List File) (f : File) (hf : f.2 ≠ []) :
    (f.1, f.2.map fun s => bindings s.1 s.2) ∈ requestOutputs (pre ++ f :: post) := by
  rw [requestOutputs_eq]
  exact List.mem_map.mpr ⟨f, List.mem_filter.mpr ⟨by simp, by simpa using hf⟩, rfl⟩

/-- files without services produce nothing and end nothing: the outputs are those of the request without them -/
theorem C19_serviceless_files_are_transparent (files : List File) :
    requestOutputs files = requestOutputs (files.filter fun f => !f.2.isEmpty) := by
  rw [requestOutputs_eq, requestOutputs_eq, List.filter_filter]
  simp

/-- the order of the files in the request only orders the outputs -/
theorem C19_outputs_permute_with_request (a b : List File) (h : a.Perm b) :
    (requestOutputs a).Perm (requestOutputs b) := by
  rw [requestOutputs_eq, requestOutputs_eq]
  exact (h.filter _).map _

/-- non-vacuity (the shape seeded change C19-m9 broke): a message-only file first, then a file with one service -/
example : (requestOutputs [([116], []), ([115], [([83], [⟨[97], false, true⟩])])]).map (·.1) = [[115]] := by
  rw [requestOutputs_eq]; decide

end Stubgen
