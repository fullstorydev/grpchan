/-
  C04 — cancellation and deadlines end calls with the right code and reach the handler
  (in-process streams; the unary race is in Proofs/C04 part 2 over InprocUnary).
  Cancellation / deadline expiry is the environment action `cancel r`, enabled in every state, so
  quantifying over all action sequences covers every placement of the instant.
-/
import Proofs.C01
import Proofs.Lemmas.InprocAll
import Proofs.Lemmas.InprocUnaryAll
import Proofs.Lemmas.HttpUnary
import Proofs.Lemmas.HttpServerStream

namespace InprocStream

/-- a step that completes a client `RecvMsg` (not `Header()`/`Trailer()`) -/
def isRecvStep (s : St) (a : Act) : Prop :=
  a = .cRecvBegin ∨ ((a = .cTake ∨ a = .cClosed ∨ a = .cCtx) ∧ s.cRecv ≠ some .header)

/-- **After the context ended, a receive is the cancellation status.** In every state whose
    context is done with reason `r`, every completion of a pending or later RecvMsg returns
    `status(Canceled | DeadlineExceeded)` — never nil, never a message, never io.EOF, never a
    non-status error — unless the client had already been handed the call's real final error
    (then that complete real result is repeated). -/
theorem C04_after_cancel_receive_is_status (s s' : St) (a : Act) (evs : List Ev) (r : Reason) (res : Res)
    (hctx : s.ctx = some r) (ha : isRecvStep s a) (hs : step s a = some (s', evs))
    (hev : Ev.ret .cr res ∈ evs) :
    res = .status (codeOf r) ∨ (∃ e, s.last = some (.err e) ∧ res = translate e) := by
  rcases ha with rfl | ⟨rfl | rfl | rfl, hmode⟩ <;> invert hs [step] <;> simp_all

/-- **Promptly**: a pending RecvMsg (or Header) needs no step of the peer once the context is done:
    its own context branch is enabled. Likewise a pending client SendMsg, a handler RecvMsg and a
    pending handler write. -/
theorem C04_cancel_unblocks (s : St) (r : Reason) (hctx : s.ctx = some r) :
    (s.cRecv.isSome → (step s .cCtx).isSome) ∧
    (s.cSend.isSome → (step s .cSendCtx).isSome) ∧
    (s.sRecv = true → (step s .sRecvCtx).isSome) ∧
    (∀ f fs k, s.sWrite = some ⟨f :: fs, k⟩ → (step s .sWriteCtx).isSome) := by
  refine ⟨?_, ?_, ?_, ?_⟩
  · intro h; cases hm : s.cRecv with
    | none => simp [hm] at h
    | some m => cases m <;> simp [step, hm, hctx]
  · intro h; cases hm : s.cSend with
    | none => simp [hm] at h
    | some m => simp [step, hm, hctx]
  · intro h; simp [step, h, svrCtxDone, hctx]
  · intro f fs k h; cases k <;> simp [step, h, svrCtxDone, hctx, finishWrite]

/-- **The handler's context is cancelled as well** (it is a child of the call's context), and from
    then on the handler receives no further message: every completion of its RecvMsg is the
    context error. -/
theorem C04_handler_ctx_cancelled (s s' : St) (a : Act) (evs : List Ev) (r : Reason) (res : Res)
    (hctx : s.ctx = some r) :
    svrCtxDone s = true ∧
    ((a = .sRecvTake ∨ a = .sRecvClosed ∨ a = .sRecvCtx) → step s a = some (s', evs) →
      Ev.ret .h res ∈ evs → res = .ctxErr r) := by
  refine ⟨by simp [svrCtxDone, hctx], ?_⟩
  rintro (rfl | rfl | rfl) hs hev <;> invert hs [step] <;> simp_all [svrCtxDone, svrCtxErr]

/-- **A handler that returns its context error**: the client sees the matching code (through the
    error frame and `TranslateContextError`). -/
theorem C04_handler_ctx_error_maps (r : Reason) :
    translate (.ctx r) = .status (codeOf r) ∧ codeOf .canceled = 1 ∧ codeOf .deadline = 4 := by
  simp [translate, codeOf]

/-- **Nothing is delivered after the context ended**: the receiver's view is frozen. -/
theorem C04_no_delivery_after_cancel (s s' : St) (a : Act) (evs : List Ev) (r : Reason)
    (hctx : s.ctx = some r) (hs : step s a = some (s', evs)) :
    s'.cDelivered = s.cDelivered ∧ s'.sDelivered = s.sDelivered := by
  cases a <;> invert hs [step, finishWrite] <;> first | exact ⟨rfl, rfl⟩ | simp_all [svrCtxDone]

/-- non-vacuity, and the schedule of fix b66e58b: a message peeked by Header(), then cancel, then
    RecvMsg: the result is Canceled, not the peeked message -/
example : ∃ s, run (init 1 1 true) [.sSendBegin 9, .sWriteEnq, .cHeaderBegin, .cTake, .cancel .canceled] = some s ∧
    s.last = some (.data 9) ∧ step s .cRecvBegin = some (s, [.ret .cr (.status 1)]) := by
  exact ⟨_, rfl, rfl, rfl⟩

end InprocStream

/-! ### the unary call (`Channel.Invoke`): cancellation racing completion -/
namespace InprocUnary
open InprocStream (Reason HErr Res codeOf translate)

/-- **Never a mixture.** For every interleaving of the server goroutine's frame writes (each a
    choice between enqueue and skip-on-done), the caller's loop and the cancellation instant:
    whatever `Invoke` returns is either the cancellation status of its (done) context, or the
    handler's real result — and if that result is success, the caller holds the response and ALL
    headers and trailers the handler set. -/
theorem C04_unary_race_no_mixture (cap : Nat) (s : St) (h : Reachable cap s) (r : Res) (hr : s.result = some r) :
    (∃ rr, s.ctx = some rr ∧ r = ctxStatus rr) ∨
    (∃ ret, s.hRet = some ret ∧ r = expectedU ret ∧ (r = .ok → Complete s)) := by
  obtain ⟨_, _, hok⟩ := all_unary cap s h
  rcases hok.res r hr with h1 | ⟨ret, h1, h2⟩
  · exact Or.inl h1
  · exact Or.inr ⟨ret, h1, h2, fun hrk => hok.okc (hrk ▸ hr)⟩

theorem expectedU_cases (ret : Option Nat × Option HErr) :
    expectedU ret = .ok ∨ (∃ c, expectedU ret = .status c) ∨ expectedU ret = .plainErr := by
  obtain ⟨v, _ | e⟩ := ret
  · cases v <;> simp [expectedU]
  · cases e <;> simp [expectedU, translate]

/-- all `Invoke` ever returns: nil, a status error, or the handler's own non-status error -/
theorem result_kinds (cap : Nat) (s : St) (h : Reachable cap s) (r : Res) (hr : s.result = some r) :
    r = .ok ∨ (∃ c, r = .status c) ∨ r = .plainErr := by
  rcases (all_unary cap s h).2.2.res r hr with ⟨rr, _, rfl⟩ | ⟨ret, _, rfl⟩
  · exact .inr (.inl ⟨_, rfl⟩)
  · exact expectedU_cases ret

/-- **Never a bare io.EOF, never a non-status context error.** -/
theorem C04_unary_never_bare_eof (cap : Nat) (s : St) (h : Reachable cap s) :
    s.result ≠ some .eof ∧ ∀ rr, s.result ≠ some (.ctxErr rr) := by
  constructor
  · intro hr; rcases result_kinds cap s h _ hr with h | ⟨c, h⟩ | h <;> cases h
  · intro rr hr; rcases result_kinds cap s h _ hr with h | ⟨c, h⟩ | h <;> cases h

/-- **Promptly**: once the context is done, the caller's loop can return without the server. -/
theorem C04_unary_cancel_unblocks (s : St) (r : Reason) (hctx : s.ctx = some r) (hres : s.result = none) :
    step s .cCtx = some ({ s with result := some (.status (codeOf r)) }, []) := by
  simp [step, hres, hctx, ctxStatus]

/-- The defect repaired by 313140f, kept as a counterexample on the pre-repair model: the trailers
    frame is skipped after the cancellation, the caller's loop happens to see the closed channel,
    and `Invoke` reports success without the trailers. -/
theorem C04_old_code_mixture : ∃ s, run (initOld 1)
    [.hSetTrailer 7, .hReturn (some 5) none, .wEnq, .cTake, .cancel .canceled, .wSkip, .wClose, .cClosed] = some s ∧
    s.result = some .ok ∧ s.cTlr = none ∧ s.hTlr = [7] := by
  exact ⟨_, rfl, rfl, rfl, rfl⟩

/-- …the same schedule on the repaired model yields the cancellation status. -/
example : ∃ s, run (init 1)
    [.hSetTrailer 7, .hReturn (some 5) none, .wEnq, .cTake, .cancel .canceled, .wSkip, .wClose, .cClosed] = some s ∧
    s.result = some (.status 1) := by
  exact ⟨_, rfl, rfl⟩

end InprocUnary

/-! ### HTTP/1.1 client stream -/
namespace HttpClientStream
open InprocStream (Reason Res codeOf)

/-- **HTTP: after the context ended, a receive is the cancellation status or the call's completed
    final outcome** — never a non-status context error (the defect repaired by 81f3c90: the reader
    records the context's status, not the I/O error the cancellation provoked). -/
theorem C04_http_recv_after_cancel (s s' : St) (a : Act) (evs : List Ev) (r : Reason) (res : Res)
    (hctx : s.ctx = some r) (ha : a = .cRecvBegin ∨ a = .cRecvCtx ∨ a = .cRecvClosed)
    (hs : step s a = some (s', evs)) (hev : Ev.ret .cr res ∈ evs) :
    res = .status (codeOf r) ∨ (s.done = true ∧ (res = finalOf s ∨ ∃ m, res = .msg m)) := by
  rcases ha with rfl | rfl | rfl <;> invert hs [step] <;> simp_all [ctxStatus]

/-- the completion `defer`: an I/O error observed after the context ended is recorded as the
    context's status -/
theorem C04_http_complete_records_ctx_status (s : St) (e : Res) (r : Reason) (hre : s.rErr = none)
    (hrd : s.rdErr = some e) (hctx : s.ctx = some r) : (complete s).rErr = some (.status (codeOf r)) := by
  simp [complete_rErr, hre, hrd, hctx, ctxStatus]

/-- **Promptly**: with the context done, a pending RecvMsg and a reader parked at the hand-off both
    have their context branch enabled. -/
theorem C04_http_cancel_unblocks (s : St) (r : Reason) (hctx : s.ctx = some r) :
    (∀ m, s.cRecv = some m → m ≠ .violation → (step s .cRecvCtx).isSome) ∧ (s.pc = 2 → (step s .rdCtx).isSome) := by
  refine ⟨fun m hm hv => ?_, fun h => by simp [step, h, hctx]⟩
  cases m <;> simp_all [step]

end HttpClientStream

namespace HttpUnary
open InprocStream (HErr Reason Res codeOf)

/-- **Unary calls over HTTP whose context ends**: wherever the end of the context falls — before the
    reply, or after the reply headers while the body is being read, whichever branch the final
    select takes — `Invoke` returns the Canceled / DeadlineExceeded status, or the complete real
    result of an error reply; never a bare context error, io.EOF or another non-status error.
    (Depends on the regenerated fact that a body-read error met after the select is translated;
    the code before the repair 8686b2a returned it raw: 11 of 60 runs of the harness's
    `unaryCancelAfterReplyHeaders`.) -/
theorem C04_http_unary_cancel_is_status (r : Reply) (at_ : CancelAt) (reason : Reason) :
    clientCancelled r at_ reason = .status (codeOf reason) ∨
    ∃ c, c ≠ 0 ∧ clientCancelled r at_ reason = .status c ∧ (client r).result = .status c := by
  cases at_ with
  | beforeReply => left; rfl
  | afterHeaders took =>
    unfold clientCancelled client
    generalize replyCode r = code
    by_cases h0 : code = 0
    · left; cases took <;> simp [h0, Gen.unaryBodyErrTranslated]
    · right; exact ⟨code, h0, by simp [h0], by simp [h0]⟩

theorem C04_http_unary_body_error_fact : Gen.unaryBodyErrTranslated = true := by decide

end HttpUnary

namespace HttpServerStream
open InprocStream (HErr Reason Res codeOf)

/-- on a single-request method, once a message has been handed to the handler nothing of the request is left unread -/
def ReadToEnd (s : St) : Prop := s.clientStreams = false → s.received ≠ [] → s.req = []

theorem readToEnd_step {s s' : St} {a : Act} {r : Res} (hP : ReadToEnd s) (hst : step s a = some (s', r)) : ReadToEnd s' := by
  unfold ReadToEnd at *
  cases a <;> invert hst [step, stepLive, stepFinished] <;> simp_all

/-- **The library itself reads a single-request body to its end** (HTTP server, methods that take one request
    message): for every request body and every handler behaviour, as soon as the handler has been given its
    message the whole request has been consumed. This is what lets net/http watch the connection from then on
    and cancel the handler's context when the caller goes away (the runtime part, checked on a loopback
    connection by the harness); a handler of such a method never has to drain anything itself.
    (For client-streaming methods no such statement holds — known finding C04-F7.) -/
theorem C04_http_server_single_request_read_to_end (req : List ReqItem) (acts : List Act) (s : St) (rs : List Res)
    (h : run (init false req) acts = some (s, rs)) (hm : msgsOf rs ≠ []) : s.req = [] := by
  obtain ⟨-, hcs, -, -, hrec⟩ := run_init h
  have hP : ReadToEnd s := run_inv readToEnd_step h (by simp [ReadToEnd, init])
  exact hP hcs (hrec ▸ hm)

/-- with several request messages allowed the request may well be unread while the handler holds a message
    (witness for C04-F7: one message taken, one still in the body) -/
theorem C04_http_server_client_stream_may_leave_request_unread :
    ∃ s rs, run (init true [.data 1 true, .data 2 true]) [.recv] = some (s, rs) ∧ msgsOf rs = [1] ∧ s.req ≠ [] := by
  refine ⟨_, _, rfl, by decide, by decide⟩

/-- non-vacuity: a one-frame body, one RecvMsg -/
example : ∃ s rs, run (init false [.data 7 true]) [.recv] = some (s, rs) ∧ msgsOf rs = [7] ∧ s.req = [] :=
  ⟨_, _, rfl, by decide, by decide⟩

end HttpServerStream
