/-
  C16 — server interceptors wrap every handler once, in order, without side effects.
  Theorems over the InterceptServer model; handlers and interceptors are arbitrary functions
  (short-circuiting, failing, rewriting, calling onward several times are all instances).
-/
import Model.InterceptServer

namespace InterceptServer
open Prim

/-- **Decoration of any depth.** `us`, outermost (latest) decoration first, around a generated
    handler: the transport's interceptor (if any) runs first, then the decorations from the outside
    in, then the application handler. -/
theorem decorateUnary_foldr (info : Bytes) (app : UHandler) (us : List UInt) (req : Req) (t : Option UInt) :
    us.foldr decorateUnary (generated info app) req t =
      (t.toList ++ us).foldr (fun u next r => u info r next) app req := by
  induction us generalizing req t with
  | nil => cases t <;> rfl
  | cons u us ih =>
    show us.foldr decorateUnary (generated info app) req (some (combine t u)) = _
    rw [ih]
    cases t <;> rfl

/-- **Composition equation (unary).** For every original application handler, every decorating
    interceptor `u` and every transport-supplied interceptor `t?`, the decorated method handler is
    `t (info, req, λ req'. u (info, req', app))` — transport first, decorating next, then the
    original; with no transport interceptor it is `u (info, req, app)`. Exactly-once, order,
    "handler runs iff every interceptor calls onward" and unchanged pass-through of requests,
    responses and errors are instances of this equation. -/
theorem C16_intercept_unary_eq (info : Bytes) (app : UHandler) (u : UInt) (req : Req) :
    decorateUnary u (generated info app) req none = u info req app ∧
    ∀ t : UInt, decorateUnary u (generated info app) req (some t)
        = t info req (fun req' => u info req' app) :=
  ⟨decorateUnary_foldr info app [u] req none, fun t => decorateUnary_foldr info app [u] req (some t)⟩

/-- **Nested decoration**: decorating twice runs the transport interceptor, then the outer (later)
    decoration, then the inner one, then the handler. -/
theorem C16_nested_decoration (info : Bytes) (app : UHandler) (u1 u2 : UInt) (t : UInt) (req : Req) :
    decorateUnary u2 (decorateUnary u1 (generated info app)) req (some t)
      = t info req (fun r1 => u2 info r1 (fun r2 => u1 info r2 app)) :=
  decorateUnary_foldr info app [u2, u1] req (some t)

/-- **Streams**: the decorated stream handler is `s (info, orig)`, and a carrier with a transport
    stream interceptor runs `t (info, λ. s (info, orig))`. The info carries the full method name
    "/service/stream" and the description's own streaming flags. -/
theorem C16_intercept_stream_eq (svc : Bytes) (sd : StreamDesc) (s : SInt) (orig : SHandler) :
    (dispatchStream none (streamInfo svc sd) (decorateStream s (streamInfo svc sd) orig)
        = s (streamInfo svc sd) orig) ∧
    (∀ t : SInt, dispatchStream (some t) (streamInfo svc sd) (decorateStream s (streamInfo svc sd) orig)
        = t (streamInfo svc sd) (fun _ => s (streamInfo svc sd) orig)) ∧
    (streamInfo svc sd).fullMethod = [47] ++ svc ++ [47] ++ sd.name ∧
    (streamInfo svc sd).isClientStream = sd.clientStreams ∧
    (streamInfo svc sd).isServerStream = sd.serverStreams := by
  refine ⟨rfl, fun t => rfl, ?_⟩
  simp [streamInfo, Gen.serverStreamInfoFormat, Gen.infoIsClientFrom, Gen.infoIsServerFrom]

/-- `InterceptServer` with the extracted conditions evaluated: the description itself without
    interceptors, otherwise a fresh slice for each kind that is intercepted. -/
theorem interceptServer_eq (h : Heap) (d : Desc) (hasU hasS : Bool) (wrap : Nat → Nat) :
    interceptServer h d hasU hasS wrap =
      if !hasU && !hasS then (h, d)
      else
        let (h1, m) := if hasU then h.alloc ((h.get d.methods).map wrap) else (h, d.methods)
        let (h2, s) := if hasS then h1.alloc ((h1.get d.streams).map wrap) else (h1, d.streams)
        (h2, { d with methods := m, streams := s }) := by
  simp [interceptServer, Gen.serverIdentityCond, Gen.serverMethodsFresh, Gen.serverStreamsFresh]

/-- **No interceptors ⇒ the original description itself** (same addresses, heap untouched). -/
theorem C16_no_interceptors_identity (h : Heap) (d : Desc) (wrap : Nat → Nat) :
    interceptServer h d false false wrap = (h, d) := by
  rw [interceptServer_eq]; rfl

theorem get_alloc_other (h : Heap) (v : List Nat) (a : Nat) (ha : a < h.next) :
    (h.alloc v).1.get a = h.get a := by
  have : (h.next == a) = false := by simp; omega
  simp [Heap.alloc, Heap.get, this]

theorem get_alloc_self (h : Heap) (v : List Nat) : (h.alloc v).1.get (h.alloc v).2 = v := by
  simp [Heap.alloc, Heap.get]

/-- **The original description is left unmodified**: every slice that existed before decoration
    (in particular the original's method and stream slices) has the same contents afterwards,
    whatever interceptors are supplied. -/
theorem C16_original_untouched (h : Heap) (d : Desc) (hasU hasS : Bool) (wrap : Nat → Nat)
    (a : Nat) (ha : a < h.next) :
    (interceptServer h d hasU hasS wrap).1.get a = h.get a := by
  rw [interceptServer_eq]
  cases hasU <;> cases hasS
  · rfl
  · exact get_alloc_other h _ a ha
  · exact get_alloc_other h _ a ha
  · exact (get_alloc_other _ _ a (Nat.lt_succ_of_lt ha)).trans (get_alloc_other h _ a ha)

/-- …and the decorated description holds the wrapped handlers, element for element. -/
theorem C16_decorated_contents (h : Heap) (d : Desc) (wrap : Nat → Nat) (hd : d.methods < h.next) :
    let r := interceptServer h d true false wrap
    r.1.get r.2.methods = (h.get d.methods).map wrap ∧ r.2.streams = d.streams ∧ r.2.name = d.name := by
  rw [interceptServer_eq]
  exact ⟨get_alloc_self h _, rfl, rfl⟩

/-- Instance of the composition equation: logging pass-through interceptors log transport, then
    decoration, then the handler — each exactly once — and the response passes through unchanged. -/
theorem C16_pass_through_log (info : Bytes) (req : Req) :
    decorateUnary (dPass 0) (generated info appEcho) req (some tPass)
      = ([.transport info req, .decor 0 info req, .app req], req) := rfl

/-- Instance: a short-circuiting decoration stops the chain — the handler does not run. -/
theorem C16_short_circuit (info : Bytes) (req : Req) :
    decorateUnary (dShort 0) (generated info appEcho) req (some tPass)
      = ([.transport info req, .decor 0 info req], 99) := rfl

/-- regenerated from intercept.go: after its identity test `WithInterceptor` always stacks a new view holding exactly the
    interceptors it was given, and a view registers `InterceptServer(desc, its own interceptors)` with the registry below -/
theorem C16_registry_view_facts :
    Gen.registryViewRest = "return &interceptingRegistry{reg: reg, unaryInt: unaryInt, streamInt: streamInt}" ∧
    Gen.registryViewRegister = "{ r.reg.RegisterService(InterceptServer(desc, r.unaryInt, r.streamInt), srv) }" ∧
    (Gen.registryIdentityCond == "&&") = true :=
  ⟨rfl, rfl, by simp [Gen.registryIdentityCond]⟩

theorem withInterceptor_eq (r : Reg) (u : Option UInt) (s : Option SInt) :
    withInterceptor r u s = if u.isNone && s.isNone then r else .view r u s := by
  simp [withInterceptor, Gen.registryIdentityCond]

/-- One more view on top of any stack of views: its unary interceptor, if it has one, decorates the
    handler before the views below see it; a view without one passes the handler on as it is. -/
theorem registerUnary_withInterceptor (r : Reg) (u : Option UInt) (s : Option SInt) (h : MethodHandler) :
    (withInterceptor r u s).registerUnary h =
      r.registerUnary (match u with | some u => decorateUnary u h | none => h) := by
  rw [withInterceptor_eq]
  cases u <;> cases s <;> rfl

theorem registerStream_withInterceptor (r : Reg) (u : Option UInt) (s : Option SInt) (info : StreamInfo)
    (h : SHandler) :
    (withInterceptor r u s).registerStream info h =
      r.registerStream info (match s with | some s => decorateStream s info h | none => h) := by
  rw [withInterceptor_eq]
  cases u <;> cases s <;> rfl

/-- **Nested registry views decorate like nested `InterceptServer` calls**: whatever interceptors (nil or not) the view
    next to the registry holds, a second view on top of it contributes its own unary interceptor — it is never dropped
    or merged away — and the view next to the registry is the outermost decoration. -/
theorem C16_nested_views_unary (u0 u1 : UInt) (s0 s1 : Option SInt) (h : MethodHandler) :
    (withInterceptor (withInterceptor .base (some u1) s1) (some u0) s0).registerUnary h
      = decorateUnary u1 (decorateUnary u0 h) ∧
    (withInterceptor (withInterceptor .base none s1) (some u0) s0).registerUnary h
      = decorateUnary u0 h := by
  simp only [registerUnary_withInterceptor]
  exact ⟨rfl, rfl⟩

/-- the same for streams -/
theorem C16_nested_views_stream (s0 s1 : SInt) (u0 u1 : Option UInt) (info : StreamInfo) (h : SHandler) :
    (withInterceptor (withInterceptor .base u1 (some s1)) u0 (some s0)).registerStream info h
      = decorateStream s1 info (decorateStream s0 info h) := by
  simp only [registerStream_withInterceptor]
  rfl

/-- instance (the shape seeded change C16-m8 broke): the view next to the registry intercepts unary calls only, the one on
    top both kinds; a unary call logs transport, inner view, outer view, handler -/
example (info : Bytes) (req : Req) (s0 : SInt) :
    (withInterceptor (withInterceptor .base (some (dPass 1)) none) (some (dPass 0)) (some s0)).registerUnary
        (generated info appEcho) req (some tPass)
      = ([.transport info req, .decor 1 info req, .decor 0 info req, .app req], req) := by
  simp only [registerUnary_withInterceptor]
  rfl

end InterceptServer
