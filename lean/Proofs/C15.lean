/-
  C15 — registry: exclusive, type-checked registration, faithful lookup and service info.
  Refinement of the registry to the abstract map `name ↦ first well-typed registration`,
  over all histories of registrations.
-/
import Model.Registry

namespace Registry
open Prim

/-- the abstract specification: the first well-typed registration under a name -/
def spec (hist : List Reg) (n : Bytes) : Option (Nat × Nat) :=
  (hist.find? (fun r => r.name == n && r.typeOK)).map fun r => (r.desc, r.handler)

theorem spec_singleton (r : Reg) (n : Bytes) :
    spec [r] n = if r.name == n && r.typeOK then some (r.desc, r.handler) else none := by
  unfold spec
  rw [List.find?_singleton]
  split <;> rfl

theorem spec_append (h₁ h₂ : List Reg) (n : Bytes) : spec (h₁ ++ h₂) n = (spec h₁ n).or (spec h₂ n) := by
  simp only [spec, List.find?_append, Option.map_or]

/-- **Refusal.** An ill-typed handler or a second handler for a name panics and leaves every earlier
    registration intact. -/
theorem C15_register_refuses (s : State) (r : Reg) (h : r.typeOK = false ∨ has s r.name = true) :
    register s r = (s, true) := by
  rcases h with h | h <;> simp [register, h]

theorem C15_register_accepts (s : State) (r : Reg) (ht : r.typeOK = true) (hn : has s r.name = false) :
    register s r = (s ++ [(r.name, r.desc, r.handler)], false) := by
  simp [register, ht, hn]

theorem query_cons (x : Entry) (t : State) (n : Bytes) :
    query (x :: t) n = if x.1 == n then some x.2 else query t n := by
  simp only [query, List.find?_cons]
  split <;> simp [*]

theorem query_append (s t : State) (n : Bytes) : query (s ++ t) n = (query s n).or (query t n) := by
  simp only [query, List.find?_append, Option.map_or]

theorem has_eq_isSome_query (s : State) (n : Bytes) : has s n = (query s n).isSome := by
  simp only [has, query, Option.isSome_map, List.isSome_find?]

theorem has_iff_mem (s : State) (n : Bytes) : has s n = true ↔ n ∈ s.map (·.1) := by
  simp [has]

/-- one registration step refines the spec: the abstract map gains the entry iff it was free and
    the handler is well typed -/
theorem query_register (s : State) (r : Reg) (n : Bytes) :
    query (register s r).1 n = (query s n).or (spec [r] n) := by
  rw [spec_singleton]
  cases ht : r.typeOK
  · simp [C15_register_refuses s r (.inl ht)]
  cases hh : has s r.name
  · rw [C15_register_accepts s r ht hh, query_append]
    simp [query]
  · rw [C15_register_refuses s r (.inr hh)]
    by_cases hn : r.name = n
    · -- a duplicate: the name is taken, so the earlier entry answers
      subst hn
      rw [has_eq_isSome_query, Option.isSome_iff_exists] at hh
      obtain ⟨v, hv⟩ := hh
      simp [hv]
    · simp [hn]

/-- the refinement from any starting state: earlier entries win, then the history's first well-typed
    registration -/
theorem query_run (s : State) (hist : List Reg) (n : Bytes) :
    query (run s hist) n = (query s n).or (spec hist n) := by
  induction hist generalizing s with
  | nil => simp [run, spec]
  | cons r rest ih =>
    show query (run (register s r).1 rest) n = _
    rw [ih, query_register, Option.or_assoc, ← spec_append]
    rfl

/-- **Refinement over all histories.** After any sequence of registrations (valid, duplicate or
    ill-typed, in any order) looking up any name returns exactly the first well-typed registration
    under that name — and nothing for names never (successfully) registered. -/
theorem C15_query_after_history (hist : List Reg) (n : Bytes) :
    query (run [] hist) n = spec hist n := by
  rw [query_run]; rfl

/-- invariant: no two entries share a name -/
def NoDupNames (s : State) : Prop := (s.map (·.1)).Nodup

theorem register_nodup (s : State) (r : Reg) (h : NoDupNames s) : NoDupNames (register s r).1 := by
  cases ht : r.typeOK
  · rwa [C15_register_refuses s r (.inl ht)]
  cases hh : has s r.name
  · rw [C15_register_accepts s r ht hh]
    unfold NoDupNames
    rw [List.map_append, List.map_singleton, (List.perm_append_singleton _ _).nodup_iff, List.nodup_cons,
      ← has_iff_mem, hh]
    exact ⟨Bool.false_ne_true, h⟩
  · rwa [C15_register_refuses s r (.inr hh)]

theorem run_nodup (s : State) (hist : List Reg) (h : NoDupNames s) : NoDupNames (run s hist) := by
  induction hist generalizing s with
  | nil => exact h
  | cons r rest ih => exact ih _ (register_nodup s r h)

/-- with distinct names, membership and lookup agree -/
theorem mem_iff_query (s : State) (h : NoDupNames s) (e : Entry) : e ∈ s ↔ query s e.1 = some e.2 := by
  induction s with
  | nil => simp [query]
  | cons x t ih =>
    obtain ⟨hx, ht⟩ := List.nodup_cons.mp h
    by_cases hn : x.1 = e.1
    · have : e ∉ t := fun he => hx (List.mem_map.mpr ⟨e, he, hn.symm⟩)
      simp [query_cons, hn, this, Prod.ext_iff, eq_comm]
    · have : e ≠ x := fun h => hn (h ▸ rfl)
      simp [query_cons, hn, this, ih ht]

/-- **Iteration visits every registration exactly once**: after any history the iterated entries
    carry pairwise distinct names, and an entry is visited iff looking its name up returns it. -/
theorem C15_forEach_exactly_once (hist : List Reg) :
    NoDupNames (forEach (run [] hist)) ∧
    ∀ e, e ∈ forEach (run [] hist) ↔ query (run [] hist) e.1 = some e.2 :=
  have h := run_nodup [] hist List.nodup_nil
  ⟨h, mem_iff_query _ h⟩

theorem mem_info (s : State) (n : Bytes) (d : Nat) : (n, d) ∈ info s ↔ ∃ h, (n, d, h) ∈ forEach s := by
  simp [info, forEach]

/-- **Service info is faithful**: it lists exactly the registered names with the descriptors they
    were registered with. -/
theorem C15_info_faithful (hist : List Reg) (n : Bytes) (d : Nat) :
    (n, d) ∈ info (run [] hist) ↔ ∃ h, (n, d, h) ∈ forEach (run [] hist) :=
  mem_info _ n d

/-- non-vacuity: duplicate and ill-typed registrations in one history -/
example : query (run [] [⟨[1], 10, 20, false⟩, ⟨[1], 11, 21, true⟩, ⟨[1], 12, 22, true⟩, ⟨[2], 13, 23, true⟩]) [1] = some (11, 21) := by decide

end Registry
