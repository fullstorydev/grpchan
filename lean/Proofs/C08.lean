/-
  C08 — single-response methods yield exactly one response or an error (in-process stream API;
  the unary call path is InprocUnary, the HTTP server's second-request probe is Framing/C07).
-/
import Proofs.C01
import Proofs.C02
import Proofs.Lemmas.InprocAll
import Proofs.Lemmas.InprocUnaryAll
import Proofs.Lemmas.HttpServerStream

namespace InprocStream

theorem msg_ne_translate (e : HErr) (m : Nat) : Res.msg m ≠ translate e := by
  cases e <;> simp [translate]

/-- **Exactly one, and only with success**: on a single-response method (`respStream = false`) with a
    live context, a RecvMsg that returns a message `m` implies that the handler handed exactly that
    one message to SendMsg and returned nil — for every reachable state, i.e. any handler script
    and any timing of an extra message relative to the client's look-ahead. -/
theorem C08_single_response (c1 c2 : Nat) (s s' : St) (a : Act) (evs : List Ev) (m : Nat)
    (h : Reachable c1 c2 false s) (hctx : s.ctx = none)
    (hs : step s a = some (s', evs)) (hev : Ev.ret .cr (.msg m) ∈ evs) :
    s.sOffered = [m] ∧ s.hRet = some none := by
  have hi := inv_reachable c1 c2 false s h
  have hrs := (reachable_params c1 c2 false s h).2.2
  -- the only step that returns a message on a single-response method is `cClosed` in probe mode:
  -- the look-ahead after the single message sees the closed, drained channel
  cases a <;> invert hs [step, finishWrite] <;> simp_all [svrCtxErr, msg_ne_translate]
  rename_i hc hctx hm
  have hlast : s.last = none := hi.base.recvLast (by simp [hm])
  have hl : lastIsErr s = false := by simp [lastIsErr, hlast]
  have h1 := hi.cli.cLive (by simp [frozen, hctx, hl])
  have hnil : s.cDelivered = [] := Classical.byContradiction fun hd => by
    simpa [held, hm] using (hi.cli.single hrs hd).2.2
  rw [(hi.clean_end hctx hc.1 hc.2).2, dataOf_reply] at h1
  exact ⟨by simpa [held, hlast, hm, hnil] using h1, hi.clean_end_ok hctx hc.1 hc.2 hl⟩

/-- **A second response is an error**: while the client looks ahead after the first message, a
    further data frame makes RecvMsg fail with Internal (13), whatever the timing. -/
theorem C08_second_response_is_error (s : St) (m m' : Nat) (rest : List Frame)
    (hm : s.cRecv = some (.probe m)) (hr : s.resp = .data m' :: rest) (hctx : s.ctx = none) :
    ∃ s', step s .cTake = some (s', [.ret .cr (.status 13)]) ∧ s'.cDelivered = s.cDelivered := by
  simp [step, hm, hr, hctx]

/-- **A failure after the single response is reported** (the defect fixed by 03df1bb): an error
    frame that follows the first message is the outcome, not success. -/
theorem C08_error_after_response_is_error (s : St) (m : Nat) (e : HErr) (rest : List Frame)
    (hm : s.cRecv = some (.probe m)) (hr : s.resp = .err e :: rest) (hctx : s.ctx = none) :
    ∃ s', step s .cTake = some (s', [.ret .cr (translate e)]) ∧ s'.cDelivered = s.cDelivered := by
  simp [step, hm, hr, hctx]

/-- **No response is not a message**: with nothing sent, RecvMsg on a single-response method never
    returns a message (it returns io.EOF or the handler's error). -/
theorem C08_no_response_no_message (c1 c2 : Nat) (s s' : St) (a : Act) (evs : List Ev) (m : Nat)
    (h : Reachable c1 c2 false s) (hctx : s.ctx = none) (hnone : s.sOffered = [])
    (hs : step s a = some (s', evs)) : Ev.ret .cr (.msg m) ∉ evs := by
  intro hev
  have := (C08_single_response c1 c2 s s' a evs m h hctx hs hev).1
  rw [hnone] at this
  simp at this

/-- non-vacuity: handler sends 201 and returns nil -> the client's single RecvMsg returns 201 -/
example : ∃ s s', run (init 1 1 false) [.sSendBegin 201, .sWriteEnq, .sReturn none, .sFinishEnd, .cRecvBegin, .cTake] = some s ∧
    step s .cClosed = some (s', [.ret .cr (.msg 201)]) ∧ s.sOffered = [201] ∧ s.hRet = some none := by
  exact ⟨_, _, rfl, rfl, rfl, rfl⟩

end InprocStream

/-! ### the unary call (`Channel.Invoke`) -/
namespace InprocUnary
open InprocStream (Reason HErr Res codeOf translate)

/-- **Unary: exactly one response or an error.** `Invoke` returns nil only if the handler returned
    exactly one response and no error, and the caller has been given that response. -/
theorem C08_unary_exactly_one (cap : Nat) (s : St) (h : Reachable cap s) (hr : s.result = some .ok) :
    ∃ x, s.hRet = some (some x, none) ∧ s.respCopied = some x ∧ dataCount s.enq ≤ 1 := by
  obtain ⟨x, h1, h2, _⟩ := complete_of_ok cap s h hr
  have := (all_unary cap s h).2.1.cnt
  exact ⟨x, h1, h2, by rw [dataCount_append] at this; omega⟩

/-- **A handler that returns neither a response nor an error** is reported as Internal. -/
theorem C08_unary_no_response_is_internal : expectedU (none, none) = .status 13 := rfl

/-- a second response frame — which the server goroutine never writes — would be Internal too -/
theorem C08_unary_second_response_is_error (s : St) (v : Nat) (rest : List UFrame)
    (hres : s.result = none) (hch : s.ch = .data v :: rest) (hgot : s.gotResponse = true) :
    ∃ s', step s .cTake = some (s', []) ∧ s'.result = some (.status 13) := by
  simp [step, hres, hch, hgot]

end InprocUnary

/-! ### HTTP/1.1 client stream -/
namespace HttpClientStream
open InprocStream (Reason Res codeOf)

/-- **HTTP single response: a second message is an error**, whatever its timing relative to the
    client's look-ahead: once the look-ahead has received it, RecvMsg returns Internal — or, if the
    reader goroutine recorded an error of its own first, that error; never success. When it records
    Internal itself, the stream cancels its own context so that the reader cannot hang. -/
theorem C08_http_second_response_is_error (rs : Bool) (s : St) (h : Reachable rs s) (hm : s.cRecv = some .violation) :
    ∃ s' r, step s .cViolation = some (s', [.ret .cr r]) ∧ r ≠ .eof ∧ (∀ x, r ≠ .msg x) ∧ r ≠ .ok ∧
      s'.delivered = s.delivered ∧ (s.rErr = none → r = .status 13 ∧ s'.done = true ∧ s'.ctx.isSome = true) := by
  cases hr : s.rErr with
  | some e =>
    have he : IsFailure e := (outcome_reachable rs s h).rErrFail e hr
    exact ⟨{ s with cRecv := none }, e, by simp [step, hm, hr], by rintro rfl; exact he,
      by rintro x rfl; exact he, by rintro rfl; exact he, rfl, by simp⟩
  | none =>
    refine ⟨{ s with cRecv := none, done := true, rErr := some (.status 13),
                     ctx := (match s.ctx with | some r => some r | none => some .canceled) },
            .status 13, (by simp only [step, hm, hr]; rfl), by simp, by simp, by simp, rfl, ?_⟩
    intro _
    refine ⟨rfl, rfl, ?_⟩
    cases s.ctx <;> simp

/-- **…and the single message is returned only with a clean OK end**: in the look-ahead, the closed
    channel yields the message exactly when the final outcome is io.EOF — i.e. (C02) an OK trailer
    was read; any other outcome takes precedence over the message. -/
theorem C08_http_single_response_needs_ok (rs : Bool) (s s' : St) (evs : List Ev) (m x : Nat)
    (h : Reachable rs s) (hm : s.cRecv = some (.probe m))
    (hs : step s .cRecvClosed = some (s', evs)) (hev : Ev.ret .cr (.msg x) ∈ evs) :
    x = m ∧ finalOf s = .eof ∧ s.sawTrailerOK = true := by
  have hok := C02_http_eof_only_with_ok_trailer rs s h
  have hfin := finalOf_eof_or_failure (outcome_reachable rs s h).rErrFail
  invert hs [step] <;> simp_all
  -- left: the outcome is not io.EOF and is returned instead; it is a failure, not a message
  rw [← hev] at hfin
  exact hfin

end HttpClientStream

namespace HttpServerStream
open InprocStream (HErr Reason Res codeOf)

/-- **Over HTTP the server rejects a second request message on single-request methods**: whatever
    the request body holds and however often the handler calls RecvMsg, it is given at most one
    message, and it is given one only if the body consists of exactly that one decodable frame. -/
theorem C08_http_server_single_request (req : List ReqItem) (acts : List Act) (s : St) (rs : List Res)
    (h : run (init false req) acts = some (s, rs)) :
    msgsOf rs = [] ∨ ∃ m, msgsOf rs = [m] ∧ req = [.data m true] := by
  obtain ⟨hi, hcs, -, -, hm⟩ := run_init h
  exact hm ▸ hi.single hcs

/-- the second frame makes the first RecvMsg fail with InvalidArgument, and later calls see io.EOF -/
theorem C08_http_server_second_request_rejected (s : St) (m : Nat) (x : ReqItem) (rest : List ReqItem)
    (hf : s.finished = false) (hcs : s.clientStreams = false) (h0 : s.recvd = 0) (hreq : s.req = .data m true :: x :: rest) :
    ∃ s', step s .recv = some (s', .status 3) ∧ step s' .recv = some (s', .eof) := by
  refine ⟨_, by simp [step, stepLive, hf, hcs, h0, hreq]; rfl, by simp [step, stepLive, hf, hcs]⟩

end HttpServerStream
