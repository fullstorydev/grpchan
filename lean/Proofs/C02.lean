/-
  C02 — the client sees exactly the handler's final status; success only if it succeeded
  (in-process streams; the unary path is in InprocUnary, the HTTP rendering in Codes/C14).
  For EVERY reachable state of the InprocStream system and every RecvMsg completion with a live
  context: io.EOF only if the handler returned nil and every data frame was consumed; an error
  result is the handler's error (context errors translated to their status); the only error the
  library itself synthesises is Internal for a second message on a single-response method.
-/
import Proofs.C01
import Proofs.Lemmas.InprocAll
import Proofs.Lemmas.InprocUnaryAll
import Proofs.Lemmas.HttpServerStream
import Proofs.Lemmas.Metadata
import Proofs.Lemmas.HttpUnary
import Proofs.Lemmas.HttpCompose

namespace InprocStream

/-- a RecvMsg completion step: `RecvMsg` served from the peeked frame, or a pending RecvMsg taking
    a frame / seeing the closed channel -/
def isRecvCompletion (s : St) (a : Act) : Prop :=
  (a = .cRecvBegin) ∨ ((a = .cTake ∨ a = .cClosed) ∧ s.cRecv ≠ some .header)

/-- what the client must see for a given handler return value -/
def expected : Option HErr → Res
  | none => .eof
  | some e => translate e

/-- **Final status**: with a live context, every terminal outcome of a client RecvMsg is the
    handler's: `io.EOF` iff the handler returned nil; otherwise the handler's error, translated.
    The single exception is the library's own Internal error for a second response message on a
    single-response method (C08). Messages (`.msg`) are not terminal. -/
theorem C02_client_status_eq_handler (c1 c2 : Nat) (rs : Bool) (s s' : St) (a : Act) (evs : List Ev) (r : Res)
    (h : Reachable c1 c2 rs s) (hctx : s.ctx = none) (ha : isRecvCompletion s a)
    (hs : step s a = some (s', evs)) (hev : Ev.ret .cr r ∈ evs) :
    (∃ m, r = .msg m) ∨ (∃ ret, s.hRet = some ret ∧ r = expected ret) ∨
    (r = .status 13 ∧ s.respStream = false) := by
  have hi := inv_reachable c1 c2 rs s h
  -- an error frame the client takes or has taken is the handler's
  have herr : ∀ e, Frame.err e ∈ s.respDeq ++ s.resp → ∃ ret, s.hRet = some ret ∧ translate e = expected ret :=
    fun e he => ⟨some e, hi.err_enq hctx (hi.base.respQ ▸ he), rfl⟩
  rcases ha with rfl | ⟨rfl | rfl, hmode⟩ <;> invert hs [step] <;> simp_all
  · -- RecvMsg served from the peeked error frame: the handler's, or the library's own Internal
    rename_i e _ hl
    rcases hi.view.errLast e hl with h1 | ⟨rfl, h2⟩
    · exact Or.inr (Or.inl (herr e (Or.inl h1)))
    · exact Or.inr (Or.inr ⟨rfl, h2⟩)
  · exact Or.inr (hi.view.probeSingle _ ‹_›)
  · -- io.EOF: the channel is closed and drained, and the client holds no error frame
    rename_i hc hctx hm
    have hl : lastIsErr s = false := by simp [lastIsErr, hi.base.recvLast (by simp [hm])]
    exact ⟨none, hi.clean_end_ok hctx hc.1 hc.2 hl, rfl⟩

/-- **Success only if the handler succeeded**: `io.EOF` with a live context means the handler
    returned nil. -/
theorem C02_eof_only_if_handler_ok (c1 c2 : Nat) (rs : Bool) (s s' : St) (a : Act) (evs : List Ev)
    (h : Reachable c1 c2 rs s) (hctx : s.ctx = none) (ha : isRecvCompletion s a)
    (hs : step s a = some (s', evs)) (hev : Ev.ret .cr .eof ∈ evs) : s.hRet = some none := by
  rcases C02_client_status_eq_handler c1 c2 rs s s' a evs .eof h hctx ha hs hev with ⟨m, hm⟩ | ⟨ret, h1, h2⟩ | ⟨h1, _⟩
  · simp at hm
  · cases ret with
    | none => exact h1
    | some e => cases e <;> simp [expected, translate] at h2
  · simp at h1

/-- **Errors keep their code**: a handler returning status code `c` is seen as exactly `c`; a
    handler returning a raw context error is seen as Canceled / DeadlineExceeded (also C04). -/
theorem C02_expected_codes (c : Nat) (r : Reason) :
    expected (some (.status c)) = .status c ∧ expected (some (.ctx r)) = .status (codeOf r) ∧
    expected (some .plain) = .plainErr ∧ expected none = .eof := by
  simp [expected, translate]

/-- non-vacuity: handler sends one message and returns NotFound (5); the client gets the message,
    then exactly status 5 -/
example : ∃ s s' evs, run (init 1 1 true)
    [.sSendBegin 7, .sWriteEnq, .cRecvBegin, .cTake, .sReturn (some (.status 5)), .sWriteEnq, .sFinishEnd, .cRecvBegin] = some s ∧
    s.ctx = none ∧ step s .cTake = some (s', evs) ∧ Ev.ret .cr (.status 5) ∈ evs ∧ s.hRet = some (some (.status 5)) := by
  refine ⟨_, _, _, rfl, rfl, rfl, ?_, rfl⟩
  simp [translate]

end InprocStream

/-! ### the unary call (`Channel.Invoke`) -/
namespace InprocUnary
open InprocStream (Reason HErr Res codeOf translate)

/-- **Unary final status**: with a live context, what `Invoke` returns is exactly the handler's
    outcome: nil iff the handler returned a response and no error; the handler's error, translated;
    Internal if it returned neither. -/
theorem C02_unary_status_eq_handler (cap : Nat) (s : St) (h : Reachable cap s) (hctx : s.ctx = none)
    (r : Res) (hr : s.result = some r) : ∃ ret, s.hRet = some ret ∧ r = expectedU ret := by
  obtain ⟨_, _, hok⟩ := all_unary cap s h
  rcases hok.res r hr with ⟨rr, h1, _⟩ | h1
  · simp [hctx] at h1
  · exact h1

/-- **Success only with the complete response**: nil from `Invoke` means the caller holds the
    handler's response value. -/
theorem C02_unary_success_is_complete (cap : Nat) (s : St) (h : Reachable cap s) (hr : s.result = some .ok) :
    ∃ x, s.hRet = some (some x, none) ∧ s.respCopied = some x := by
  obtain ⟨x, h1, h2, _⟩ := complete_of_ok cap s h hr
  exact ⟨x, h1, h2⟩

end InprocUnary

/-! ### HTTP/1.1 client stream -/
namespace HttpClientStream
open InprocStream (Reason Res codeOf)

/-- **HTTP: success only with the complete response.** Whenever a completed call's outcome is
    io.EOF, the reader has read a decodable trailer frame with code OK — so a response that is cut
    short at ANY point before (or inside) its trailer, fails the round trip, has undecodable headers
    or an undecodable trailer is never reported as success (the body ending before a trailer is an
    error by 4d2ee3d). -/
theorem C02_http_eof_only_with_ok_trailer (rs : Bool) (s : St) (h : Reachable rs s) (hd : s.done = true)
    (hf : finalOf s = .eof) : s.sawTrailerOK = true := by
  have hi := hinv_reachable rs s h
  exact hi.trOK (final_eof s hi hd hf).2

/-- **HTTP: a trailer with a non-OK code is that code.** -/
theorem C02_http_status_from_trailer (s : St) (c : Nat) (hr : s.rErr = none) (ht : s.tr = some (c + 1)) :
    finalOf s = .status (c + 1) := by
  simp [finalOf, hr, ht]

/-- a body that ends before its trailer makes the reader record an error (never a clean end) -/
theorem C02_http_truncated_is_error (s : St) (hpc : s.pc = 1) (hb : s.body = []) (he : s.bodyEnded = true) :
    ∃ s', step s .rdDecode = some (s', []) ∧ s'.done = true ∧ s'.rErr.isSome = true := by
  simp only [step, hpc, hb, he]
  exact ⟨_, rfl, rfl, by simp [complete_rErr]⟩

end HttpClientStream

namespace HttpServerStream
open InprocStream (HErr Reason Res codeOf)

/-- **The trailer's code is the handler's status** (HTTP server streams): over an intact connection
    the reply ends with a trailer frame whose code is `trailerCode e` — the status error's own code,
    Canceled / DeadlineExceeded for a context error, Unknown for any other error. -/
theorem C02_http_server_trailer_code (cs : Bool) (req : List ReqItem) (acts : List Act) (s1 : St) (rs : List Res)
    (e : Option HErr) (s : St) (r : Res) (h1 : run (init cs req) acts = some (s1, rs)) (h2 : step s1 (.ret e) = some (s, r))
    (hw : s.writeFailed = false) (hc : s.connBroken = false) :
    ∃ md, s.wire.getLast? = some (.trailer (trailerCode e) md) := by
  obtain ⟨fs, _, hwire⟩ := reply_complete cs req acts s1 rs e s r h1 h2 hw hc
  exact ⟨trailersSet acts, by rw [hwire]; simp [List.getLast?_cons]⟩

/-- **…and it says OK only if the handler returned nil**: a non-nil error never travels as code 0 -/
theorem C02_http_server_ok_only_if_nil (e : Option HErr) : trailerCode e = 0 → e = none :=
  trailerCode_zero e

/-- a failed write (unencodable message, broken connection) means no trailer at all: the client sees a
    truncated stream, never a success -/
theorem C02_http_server_no_trailer_after_failed_write (s1 : St) (e : Option HErr) (s : St) (r : Res)
    (h2 : step s1 (.ret e) = some (s, r)) (hw : s1.writeFailed = true) : s.wire = s1.wire := by
  invert h2 [step, stepLive, stepFinished]
  · rfl
  · rename_i hok; simp [hw] at hok

end HttpServerStream

namespace Metadata

/-- **Error details are byte-exact over HTTP** (unary): the unpadded URL base64 that carries each
    marshalled detail in an `X-GRPC-Details` header round-trips for every byte string of any length
    (lengths 1 and 2 mod 3 included) — whatever message type the detail holds. -/
theorem C02_details_b64_roundtrip (bs : B) (h : ∀ x ∈ bs, x < 256) : b64rawdec (b64rawenc bs) = some bs :=
  b64raw_roundtrip bs h

/-- …and the header value consists of header-safe ASCII only -/
theorem C02_details_header_safe (bs : B) : ∀ x ∈ b64rawenc bs, 32 < x ∧ x < 128 := by
  fun_induction b64rawenc bs <;> simp_all [enc6_safe]

/-- the encoding site (`handleMethod`) and the decoding site (`statFromResponse`) use the same,
    unpadded URL variant — regenerated from the source on every run -/
theorem C02_details_codec_sites : detailSitesPaired = true := by decide

example : b64rawenc [0, 10, 255, 7] = [65, 65, 114, 95, 66, 119] ∧ b64rawdec (b64rawenc [0, 10, 255, 7]) = some [0, 10, 255, 7] := by decide

end Metadata

namespace HttpUnary
open InprocStream (HErr Reason Res codeOf)

/-- **Unary over HTTP: the caller's outcome is the handler's status.** An error reaches the caller
    with its own code (a non-nil error never as success: OK is rewritten to Internal, context errors
    map to Canceled / DeadlineExceeded, other errors to Unknown), whatever HTTP status the renderer
    chose and whether or not the request context was done. -/
theorem C02_http_unary_error_outcome (ops : List HOp) (e : HErr) (ctxDone : Bool) :
    (client (serve ops (.err e) ctxDone).1).result = .status (unaryCode e) ∧ unaryCode e ≠ 0 ∧
    unaryCode e = HttpServerStream.trailerCode (some e) := by
  have hne := unaryCode_ne_zero e
  exact ⟨by simp [serve, client, replyCode, hne], hne, unaryCode_eq_trailerCode e⟩

/-- a response reaches the caller as that response — **partial**: proved for handlers that set no header
    metadata under the protocol's own status header name. The full statement is false of the code
    (known finding C02-F2, `C02_http_unary_status_header_spoof`). -/
theorem C02_http_unary_success_outcome_partial (ops : List HOp) (m : Nat) (ctxDone : Bool) (hn : noStatusHeader ops = true) :
    (client (serve ops (.resp m true) ctxDone).1).result = .msg m := by
  have h200 : Codes.codeFromHttpStatus 200 = 0 := by decide
  have hs : (runOps {} ops).1.spoof = none := runOps_noSpoof ops {} hn
  simp [serve, client, replyCode, h200, hs]

/-- **the excluded point, as a witness**: a handler that returns a response but has put `x-grpc-status: 5:…`
    into its header metadata makes the caller report code 5 — replayed on the implementation by the HU
    scripts (`sethdrx:5`), recorded as known finding C02-F2 -/
theorem C02_http_unary_status_header_spoof :
    (client (serve [.setStatusHeader 5] (.resp 7 true) false).1).result = .status 5 := by decide

/-- a response that cannot be encoded is reported as an error, never as success (same restriction) -/
theorem C02_http_unary_unencodable_is_error (ops : List HOp) (m : Nat) (ctxDone : Bool) (hn : noStatusHeader ops = true) :
    ∃ c, c ≠ 0 ∧ (client (serve ops (.resp m false) ctxDone).1).result = .status c := by
  have h500 : Codes.codeFromHttpStatus 500 ≠ 0 := by decide
  have hs : (runOps {} ops).1.spoof = none := runOps_noSpoof ops {} hn
  exact ⟨Codes.codeFromHttpStatus 500, h500, by simp [serve, client, replyCode, h500, hs]⟩

end HttpUnary

namespace HttpUnary

/-- regenerated from the source: both handlers rewrite a non-nil error whose status says OK to
    Internal, and the stream handler sanitises the status message for the proto3 trailer -/
theorem C02_http_ok_rewrite_facts :
    Gen.streamOkRewrite = true ∧ Gen.unaryOkRewrite = true ∧ Gen.streamMessageSanitised = true := by decide

end HttpUnary

namespace HttpCompose
open HttpClientStream (Act St finalOf)

/-- **HTTP streams end to end: the status the client holds is the handler's.** Whatever the handler
    program, the client's interleaving and the instant of any cancellation: if the transport answered
    the round trip with the server's reply (no synthetic non-OK status) and has delivered a prefix of
    what the server wrote over an intact connection, then the trailer status recorded in the client —
    the one `RecvMsg` reports when no transport or context error was recorded — is the code of what
    the handler returned (`trailerCode e`: its status code, Canceled / DeadlineExceeded for context
    errors, Unknown for other errors, Internal for a non-nil error that says OK). -/
theorem C02_http_end_to_end_status (cs : Bool) (req : List HttpServerStream.ReqItem)
    (hacts : List HttpServerStream.Act) (s1 : HttpServerStream.St) (rs : List InprocStream.Res)
    (hsrv : HttpServerStream.run (HttpServerStream.init cs req) hacts = some (s1, rs))
    (e : Option InprocStream.HErr) (s2 : HttpServerStream.St) (r : InprocStream.Res)
    (hret : HttpServerStream.step s1 (.ret e) = some (s2, r)) (hw : s2.writeFailed = false) (hc : s2.connBroken = false)
    (rsFlag : Bool) (cacts : List Act) (sc : St) (hcli : HttpClientStream.run (HttpClientStream.init rsFlag) cacts = some sc)
    (hfeed : itemsIn cacts <+: itemsOf s2.wire) (hnost : ∀ c, Act.tReplyStatus c ∉ cacts)
    (c : Nat) (htr : sc.tr = some c) : c = HttpServerStream.trailerCode e := by
  have hmem : HttpClientStream.Item.trailer c true ∈ itemsIn cacts :=
    (run_init_trcode rsFlag cacts sc hcli c htr).resolve_right fun h => hnost c h.1
  obtain ⟨fs, hfs, hwire⟩ := HttpServerStream.reply_complete cs req hacts s1 rs e s2 r hsrv hret hw hc
  exact (feed_complete hfs (hwire ▸ hfeed) hmem).2

end HttpCompose
