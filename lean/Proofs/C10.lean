/-
  C10 — in-process handlers get metadata, peer, deadline, but no caller context values.
  Theorems over the CtxValues model for every caller context chain and every key.
-/
import Model.CtxValues

namespace CtxValues

theorem shapes : Gen.invokeHandlerCtx = "sts(makeServerContext)" ∧ Gen.newStreamHandlerCtx = "sts(var svrCtx)" :=
  ⟨rfl, rfl⟩

/-- exactly these four statements (a statement `applyLayer` does not know would pass unnoticed otherwise) -/
theorem layers_eq : Gen.serverCtxLayers =
    ["wrap:noValuesContext", "if(FromOutgoingContext):metadata.NewIncomingContext", "peer.NewContext",
     "context.WithValue:clientContextKey:ctx"] := rfl

/-- the fold over the layer list, evaluated -/
theorem makeServerContext_eq (c : Ctx) (cid : Nat) :
    makeServerContext c cid =
      .withValue (.withValue (incomingLayer c (.noValues c false)) .peer .peerInproc) .clientCtx (.ctxRef cid) := by
  simp only [makeServerContext, layers_eq, List.foldl_cons, List.foldl_nil, applyLayer,
    Gen.noValuesValueReturns, String.reduceBEq, String.reduceBNe, Bool.false_eq_true, ↓reduceIte]

theorem value_incomingLayer (c cur : Ctx) (k : Key) :
    value (incomingLayer c cur) k =
      if .incomingMD = k then (value c .outgoingMD).or (value cur k) else value cur k := by
  unfold incomingLayer
  cases value c .outgoingMD <;> simp [value]

@[simp] theorem deadline_incomingLayer (c cur : Ctx) : deadline (incomingLayer c cur) = deadline cur := by
  unfold incomingLayer
  split <;> rfl

@[simp] theorem cancelled_incomingLayer (fired : List Nat) (c cur : Ctx) :
    cancelled fired (incomingLayer c cur) = cancelled fired cur := by
  unfold incomingLayer
  split <;> rfl

/-- Every key of the handler's context at once: the four bindings the library makes, outermost
    first, and below them the `noValuesContext` that hides the caller's chain. -/
theorem value_handlerCtx (c : Ctx) (cid : Nat) (k : Key) :
    value (handlerCtx c cid) k =
      if .transportStream = k then some .stsNew
      else if .clientCtx = k then some (.ctxRef cid)
      else if .peer = k then some .peerInproc
      else if .incomingMD = k then value c .outgoingMD
      else none := by
  simp [handlerCtx, makeServerContext_eq, value, value_incomingLayer]

/-- **No caller values.** For every caller context chain (including ones that carry gRPC's own
    keys: outgoing metadata, an enclosing handler's incoming metadata, peer, transport stream) and
    every key other than the four the library binds itself, the handler's context has no value. -/
theorem C10_no_caller_values (c : Ctx) (cid : Nat) (k : Key)
    (hk : k ≠ .incomingMD ∧ k ≠ .peer ∧ k ≠ .clientCtx ∧ k ≠ .transportStream) :
    value (handlerCtx c cid) k = none := by
  obtain ⟨h1, h2, h3, h4⟩ := hk
  rw [value_handlerCtx, if_neg h4.symm, if_neg h3.symm, if_neg h2.symm, if_neg h1.symm]

/-- **The four bound keys carry the library's values**, whatever the caller's chain holds under
    them: incoming metadata = the caller's *outgoing* metadata (absent if there is none — never the
    caller's own incoming metadata), an in-process peer, the client-context accessor pointing at the
    caller's context, and a fresh server transport stream (never an enclosing handler's). -/
theorem C10_bound_values (c : Ctx) (cid : Nat) :
    value (handlerCtx c cid) .incomingMD = value c .outgoingMD ∧
    value (handlerCtx c cid) .peer = some .peerInproc ∧
    value (handlerCtx c cid) .clientCtx = some (.ctxRef cid) ∧
    value (handlerCtx c cid) .transportStream = some .stsNew := by
  simp [value_handlerCtx]

@[simp] theorem deadline_server (c : Ctx) (cid : Nat) : deadline (makeServerContext c cid) = deadline c := by
  simp [makeServerContext_eq, deadline]

@[simp] theorem cancelled_server (fired : List Nat) (c : Ctx) (cid : Nat) :
    cancelled fired (makeServerContext c cid) = cancelled fired c := by
  simp [makeServerContext_eq, cancelled]

/-- **Deadline and cancellation pass through**: the handler's deadline is the caller's, and the
    handler's context is done exactly when the caller's is or the call's own scope was cancelled. -/
theorem C10_deadline_cancel_pass_through (c : Ctx) (cid : Nat) (fired : List Nat) :
    deadline (handlerCtx c cid) = deadline c ∧
    cancelled fired (handlerCtx c cid) = (fired.contains 0 || cancelled fired c) := by
  simp [handlerCtx, deadline, cancelled]

/-- non-vacuity: a nested call — the caller is itself a handler context with incoming metadata,
    a transport stream, a user value and outgoing metadata -/
example :
    let caller := Ctx.withValue (.withValue (.withValue (.withValue .background .incomingMD (.md 1)) .transportStream (.stsCaller 9)) (.user 5) (.user 55)) .outgoingMD (.md 2)
    value (handlerCtx caller 7) (.user 5) = none ∧ value (handlerCtx caller 7) .incomingMD = some (.md 2) ∧
    value (handlerCtx caller 7) .transportStream = some .stsNew ∧ value (handlerCtx caller 7) .outgoingMD = none := by
  simp [value_handlerCtx, value]

end CtxValues
