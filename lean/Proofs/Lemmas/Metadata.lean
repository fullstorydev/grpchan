/- base64 and header-mapping lemmas (helpers for C02 and C03) -/
import Model.Metadata

namespace Metadata

theorem dec6_enc6 {n : Nat} (h : n < 64) : dec6 (enc6 n) = some n :=
  (by decide : ∀ n : Fin 64, dec6 (enc6 n.val) = some n.val) ⟨n, h⟩

theorem enc6_ne_pad (n : Nat) : enc6 n ≠ pad := by
  unfold enc6 pad; (repeat' split) <;> omega

theorem enc6_safe (n : Nat) : 32 < enc6 n ∧ enc6 n < 128 := by
  unfold enc6; (repeat' split) <;> omega

/-- One encoded group of three bytes in front of any `rest` that decodes. A group of four that does not end in
    padding is decoded in the same way whether or not it is the last, but by another clause of `b64dec`. -/
theorem b64dec_enc_group {a b c : Nat} {rest r : B} (ha : a < 256) (hb : b < 256) (hc : c < 256)
    (hr : b64dec rest = some r) :
    b64dec (enc6 (a / 4) :: enc6 ((a % 4) * 16 + b / 16) :: enc6 ((b % 16) * 4 + c / 64) :: enc6 (c % 64) :: rest) =
      some (a :: b :: c :: r) := by
  cases rest with
  | nil =>
    cases hr
    simp (disch := omega) [b64dec, enc6_ne_pad, dec6_enc6]
    omega
  | cons x xs =>
    simp (disch := omega) [b64dec, dec6_enc6, hr]
    omega

/-- **base64 round trip**: every byte string decodes back to itself (URL alphabet, padded), whatever
    its length — in particular lengths 1 and 2 mod 3 (padding) and bytes 0x00, 0x0A, 0xFF. -/
theorem b64_roundtrip (bs : B) (h : ∀ x ∈ bs, x < 256) : b64dec (b64enc bs) = some bs := by
  induction bs using b64enc.induct with
  | case1 a b c rest ih =>
    obtain ⟨ha, hb, hc, hr⟩ : a < 256 ∧ b < 256 ∧ c < 256 ∧ ∀ x ∈ rest, x < 256 := by simpa using h
    rw [b64enc, b64dec_enc_group ha hb hc (ih hr)]
  | case2 a b =>
    obtain ⟨ha, hb⟩ : a < 256 ∧ b < 256 := by simpa using h
    simp (disch := omega) [b64enc, b64dec, enc6_ne_pad, dec6_enc6]
    omega
  | case3 a =>
    obtain ha : a < 256 := by simpa using h
    simp (disch := omega) [b64enc, b64dec, dec6_enc6]
    omega
  | case4 => rfl

/-- **unpadded base64 round trip** (the X-GRPC-Details headers): every byte string, whatever its length -/
theorem b64raw_roundtrip (bs : B) (h : ∀ x ∈ bs, x < 256) : b64rawdec (b64rawenc bs) = some bs := by
  induction bs using b64rawenc.induct with
  | case1 a b c rest ih =>
    obtain ⟨ha, hb, hc, hr⟩ : a < 256 ∧ b < 256 ∧ c < 256 ∧ ∀ x ∈ rest, x < 256 := by simpa using h
    simp (disch := omega) [b64rawenc, b64rawdec, dec6_enc6, ih hr]
    omega
  | case2 a b =>
    obtain ⟨ha, hb⟩ : a < 256 ∧ b < 256 := by simpa using h
    simp (disch := omega) [b64rawenc, b64rawdec, dec6_enc6]
    omega
  | case3 a =>
    obtain ha : a < 256 := by simpa using h
    simp (disch := omega) [b64rawenc, b64rawdec, dec6_enc6]
    omega
  | case4 => rfl

/-! ### several keys -/

def keysOf (m : MD) : List B := m.map (·.1)

theorem addValFront_append (m t : MD) (k v : B) (h : k ∉ keysOf m) :
    asMetadata.addValFront (m ++ t) k v = m ++ asMetadata.addValFront t k v := by
  induction m with
  | nil => rfl
  | cons e r ih =>
    obtain ⟨hne, hr⟩ : ¬ e.1 = k ∧ k ∉ keysOf r := by simpa [keysOf, eq_comm] using h
    simp only [List.cons_append, asMetadata.addValFront, hne, if_false, ih hr]

/-- One header line as `toHeaders` writes it, in front of headers `hs`: its value goes in front of the values `k` has
    so far. Those are the end `t` of what `hs` decodes to (`t = []`: none so far), since `toHeaders` writes all lines
    of a key together and `asMetadata` builds from the back. -/
theorem asMetadata_cons_enc {k v : B} {hs : Headers} {m t : MD} (hl : lower k = k)
    (hv : isBin k = true → ∀ x ∈ v, x < 256) (hk : k ∉ keysOf m) (h : asMetadata hs = some (m ++ t)) :
    asMetadata ((k, if isBin k then b64enc v else v) :: hs) = some (m ++ asMetadata.addValFront t k v) := by
  simp only [asMetadata, h, hl, addValFront_append m t k _ hk]
  cases hb : isBin k with
  | false => simp
  | true => simp [b64_roundtrip v (hv hb)]

/-- the header lines of one more key, in front of headers that decode to `m0` without that key -/
theorem asMetadata_block (k : B) (vs : List B) (hs : Headers) (m0 : MD) (hne : vs ≠ []) (hl : lower k = k)
    (hvs : isBin k = true → ∀ v ∈ vs, ∀ x ∈ v, x < 256) (h0 : asMetadata hs = some m0) (hk : k ∉ keysOf m0) :
    asMetadata ((vs.map fun v => (k, if isBin k then b64enc v else v)) ++ hs) = some (m0 ++ [(k, vs)]) := by
  induction vs with
  | nil => exact absurd rfl hne
  | cons v rest ih =>
    have hv := fun hb => hvs hb v (by simp)
    cases rest with
    | nil => exact asMetadata_cons_enc (t := []) hl hv hk (by rwa [List.append_nil])
    | cons v2 rest2 =>
      have ih' := ih (by simp) (fun hb w hw => hvs hb w (by simp [hw]))
      rw [List.map_cons, List.cons_append, asMetadata_cons_enc hl hv hk ih']
      simp [asMetadata.addValFront]

/-- well-formed metadata as the property quantifies over it: distinct lower-case keys that are not
    reserved HTTP header names, at least one value per key, `-bin` values are byte strings -/
def WF (md : MD) : Prop :=
  (keysOf md).Nodup ∧ ∀ e ∈ md, lower e.1 = e.1 ∧ isReserved e.1 = false ∧ e.2 ≠ [] ∧ (isBin e.1 = true → ∀ v ∈ e.2, ∀ x ∈ v, x < 256)

theorem md_roundtrip (md : MD) (h : WF md) : asMetadata (toHeaders md []) = some md.reverse := by
  induction md with
  | nil => rfl
  | cons e rest ih =>
    simp only [WF, keysOf, List.map_cons, List.nodup_cons, List.forall_mem_cons] at h
    obtain ⟨⟨hk, hnd⟩, ⟨hl, hr, hne, hb⟩, hall⟩ := h
    have := asMetadata_block e.1 e.2 _ _ hne hl hb (ih ⟨hnd, hall⟩) (by simpa [keysOf] using hk)
    simpa [toHeaders, hr] using this

end Metadata
