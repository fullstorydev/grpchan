/- every reachable state of the InprocUnary system satisfies all three invariant bundles -/
import Proofs.Lemmas.InprocUnaryOk

namespace InprocUnary
open InprocStream (Reason HErr Res codeOf translate)

theorem all_unary (cap : Nat) (s : St) (h : Reachable cap s) : UInv s ∧ UCnt s ∧ UOk s :=
  reachable_induction cap (fun s => UInv s ∧ UCnt s ∧ UOk s) ⟨uinv_init cap, ucnt_init cap, uok_init cap⟩
    (fun s a s' evs hp hs => ⟨uinv_step s a s' evs hp.1 hs, ucnt_step s a s' evs hp.1 hp.2.1 hs,
      uok_step s a s' evs hp.1 hp.2.1 hp.2.2 hs⟩) s h

/-- nil from `Invoke`: the caller holds the handler's response and all its metadata -/
theorem complete_of_ok (cap : Nat) (s : St) (h : Reachable cap s) (hr : s.result = some .ok) : Complete s :=
  (all_unary cap s h).2.2.okc hr

end InprocUnary
