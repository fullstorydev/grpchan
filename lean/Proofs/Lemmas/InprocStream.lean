/-
  Basics of the InprocStream transition system: reachability, and the vocabulary in which the
  invariants speak about frame lists (what a list of frames carries as data, headers, trailers,
  error; where in the list they stand).
-/
import Model.InprocStream
import Proofs.Lemmas.Lts

namespace InprocStream

/-! ### frame lists -/

def dataCount : List Frame → Nat
  | [] => 0
  | .data _ :: r => dataCount r + 1
  | _ :: r => dataCount r

def dc1 : Frame → Nat
  | .data _ => 1
  | _ => 0

@[simp] theorem dataCount_nil : dataCount [] = 0 := rfl
@[simp] theorem dataCount_cons (f : Frame) (r : List Frame) : dataCount (f :: r) = dc1 f + dataCount r := by
  cases f <;> simp [dataCount, dc1] <;> omega
@[simp] theorem dc1_data (m : Nat) : dc1 (.data m) = 1 := rfl
@[simp] theorem dc1_headers (m : List Nat) : dc1 (.headers m) = 0 := rfl
@[simp] theorem dc1_trailers (m : List Nat) : dc1 (.trailers m) = 0 := rfl
@[simp] theorem dc1_err (e : HErr) : dc1 (.err e) = 0 := rfl

@[simp] theorem dataCount_append (a b : List Frame) : dataCount (a ++ b) = dataCount a + dataCount b := by
  induction a with
  | nil => simp
  | cons f r ih => simp [ih]; omega

theorem dc1_le (f : Frame) : dc1 f ≤ 1 := by cases f <;> simp

theorem dataCount_le_length (a : List Frame) : dataCount a ≤ a.length := by
  induction a with
  | nil => simp
  | cons f r ih => have := dc1_le f; simp; omega

def dataOf : List Frame → List Nat
  | [] => []
  | .data m :: r => m :: dataOf r
  | _ :: r => dataOf r

@[simp] theorem dataOf_nil : dataOf [] = [] := rfl
@[simp] theorem dataOf_data (m : Nat) (r : List Frame) : dataOf (.data m :: r) = m :: dataOf r := rfl
@[simp] theorem dataOf_headers (m : List Nat) (r : List Frame) : dataOf (.headers m :: r) = dataOf r := rfl
@[simp] theorem dataOf_trailers (m : List Nat) (r : List Frame) : dataOf (.trailers m :: r) = dataOf r := rfl
@[simp] theorem dataOf_err (e : HErr) (r : List Frame) : dataOf (.err e :: r) = dataOf r := rfl
@[simp] theorem dataOf_append (a b : List Frame) : dataOf (a ++ b) = dataOf a ++ dataOf b := by
  induction a with
  | nil => simp
  | cons f r ih => cases f <;> simp [ih]
@[simp] theorem dataOf_map_data (l : List Nat) : dataOf (l.map .data) = l := by
  induction l with
  | nil => rfl
  | cons m r ih => simp [ih]

/-- the metadata of the last headers frame of a frame list ([] if none) -/
def hdrOf (l : List Frame) : List Nat :=
  l.foldl (fun acc f => match f with | .headers md => md | _ => acc) []
def tlrOf (l : List Frame) : List Nat :=
  l.foldl (fun acc f => match f with | .trailers md => md | _ => acc) []

@[simp] theorem hdrOf_nil : hdrOf [] = [] := rfl
@[simp] theorem tlrOf_nil : tlrOf [] = [] := rfl
@[simp] theorem hdrOf_snoc (l : List Frame) (f : Frame) :
    hdrOf (l ++ [f]) = (match f with | .headers md => md | _ => hdrOf l) := by
  simp [hdrOf, List.foldl_append]
@[simp] theorem tlrOf_snoc (l : List Frame) (f : Frame) :
    tlrOf (l ++ [f]) = (match f with | .trailers md => md | _ => tlrOf l) := by
  simp [tlrOf, List.foldl_append]

def noHdr (l : List Frame) : Prop := ∀ md, Frame.headers md ∉ l
def noTlr (l : List Frame) : Prop := ∀ md, Frame.trailers md ∉ l

def isHdr : Frame → Bool | .headers _ => true | _ => false
def isDat : Frame → Bool | .data _ => true | _ => false
def isTlr : Frame → Bool | .trailers _ => true | _ => false
def isErr : Frame → Bool | .err _ => true | _ => false
/-- no headers frame / no data frame in the list -/
def nHdr (l : List Frame) : Bool := !(l.any isHdr)
def nDat (l : List Frame) : Bool := !(l.any isDat)
/-- the list starts with the headers frame carrying `h` (non-empty) and has no other headers frame -/
def hdrHead (h : List Nat) : List Frame → Bool
  | .headers x :: r => x == h && !h.isEmpty && nHdr r
  | _ => false
def tlrCount (l : List Frame) : Nat := (l.filter isTlr).length
def hasErr (l : List Frame) : Bool := l.any isErr
/-- is there an error frame that is not the last frame? -/
def errThenMore : List Frame → Bool
  | [] => false
  | f :: r => (isErr f && !r.isEmpty) || errThenMore r

@[simp] theorem isHdr_h (m : List Nat) : isHdr (.headers m) = true := rfl
@[simp] theorem isHdr_d (m : Nat) : isHdr (.data m) = false := rfl
@[simp] theorem isHdr_t (m : List Nat) : isHdr (.trailers m) = false := rfl
@[simp] theorem isHdr_e (e : HErr) : isHdr (.err e) = false := rfl
@[simp] theorem isDat_h (m : List Nat) : isDat (.headers m) = false := rfl
@[simp] theorem isDat_d (m : Nat) : isDat (.data m) = true := rfl
@[simp] theorem isDat_t (m : List Nat) : isDat (.trailers m) = false := rfl
@[simp] theorem isDat_e (e : HErr) : isDat (.err e) = false := rfl
@[simp] theorem isTlr_t (m : List Nat) : isTlr (.trailers m) = true := rfl
@[simp] theorem isTlr_h (m : List Nat) : isTlr (.headers m) = false := rfl
@[simp] theorem isTlr_d (m : Nat) : isTlr (.data m) = false := rfl
@[simp] theorem isTlr_e (e : HErr) : isTlr (.err e) = false := rfl
@[simp] theorem isErr_t (m : List Nat) : isErr (.trailers m) = false := rfl
@[simp] theorem isErr_h (m : List Nat) : isErr (.headers m) = false := rfl
@[simp] theorem isErr_d (m : Nat) : isErr (.data m) = false := rfl
@[simp] theorem isErr_e (e : HErr) : isErr (.err e) = true := rfl

@[simp] theorem nHdr_nil : nHdr [] = true := rfl
@[simp] theorem nDat_nil : nDat [] = true := rfl
@[simp] theorem nHdr_cons (f : Frame) (r : List Frame) : nHdr (f :: r) = (!isHdr f && nHdr r) := by simp [nHdr]
@[simp] theorem nDat_cons (f : Frame) (r : List Frame) : nDat (f :: r) = (!isDat f && nDat r) := by simp [nDat]
@[simp] theorem nHdr_append (a b : List Frame) : nHdr (a ++ b) = (nHdr a && nHdr b) := by simp [nHdr, List.any_append]
@[simp] theorem nDat_append (a b : List Frame) : nDat (a ++ b) = (nDat a && nDat b) := by simp [nDat, List.any_append]
@[simp] theorem hdrHead_nil (h : List Nat) : hdrHead h [] = false := rfl
@[simp] theorem hdrHead_h (h x : List Nat) (r : List Frame) : hdrHead h (.headers x :: r) = (x == h && !h.isEmpty && nHdr r) := rfl
@[simp] theorem hdrHead_d (h : List Nat) (m : Nat) (r : List Frame) : hdrHead h (.data m :: r) = false := rfl
@[simp] theorem hdrHead_t (h x : List Nat) (r : List Frame) : hdrHead h (.trailers x :: r) = false := rfl
@[simp] theorem hdrHead_e (h : List Nat) (e : HErr) (r : List Frame) : hdrHead h (.err e :: r) = false := rfl

theorem hdrHead_snoc_nonhdr (h : List Nat) (l : List Frame) (f : Frame) (hf : isHdr f = false) :
    hdrHead h (l ++ [f]) = hdrHead h l := by
  cases l with
  | nil => cases f <;> simp_all
  | cons g r => cases g <;> simp_all

theorem hdrHead_snoc (h : List Nat) (l : List Frame) (f : Frame) (hh : hdrHead h l = true) (hf : isHdr f = false) :
    hdrHead h (l ++ [f]) = true :=
  hdrHead_snoc_nonhdr h l f hf ▸ hh

@[simp] theorem tlrCount_nil : tlrCount [] = 0 := rfl
@[simp] theorem tlrCount_cons (f : Frame) (r : List Frame) : tlrCount (f :: r) = (if isTlr f then 1 else 0) + tlrCount r := by
  unfold tlrCount; cases h : isTlr f <;> simp [List.filter, h]; omega
@[simp] theorem tlrCount_append (a b : List Frame) : tlrCount (a ++ b) = tlrCount a + tlrCount b := by
  simp [tlrCount, List.filter_append]
@[simp] theorem hasErr_nil : hasErr [] = false := rfl
@[simp] theorem hasErr_cons (f : Frame) (r : List Frame) : hasErr (f :: r) = (isErr f || hasErr r) := by simp [hasErr]
@[simp] theorem hasErr_append (a b : List Frame) : hasErr (a ++ b) = (hasErr a || hasErr b) := by simp [hasErr, List.any_append]
@[simp] theorem errThenMore_nil : errThenMore [] = false := rfl
@[simp] theorem errThenMore_cons (f : Frame) (r : List Frame) : errThenMore (f :: r) = ((isErr f && !r.isEmpty) || errThenMore r) := rfl
@[simp] theorem errThenMore_single (f : Frame) : errThenMore [f] = false := by simp [errThenMore]
theorem errThenMore_snoc (l : List Frame) (f : Frame) : errThenMore (l ++ [f]) = (errThenMore l || hasErr l) := by
  induction l with
  | nil => simp
  | cons g r ih => cases hg : isErr g <;> cases r <;> simp_all

/-- without a headers frame the fold that reads the header block keeps its start value -/
theorem hdr_foldl_nHdr (l : List Frame) (acc : List Nat) (h : nHdr l = true) :
    l.foldl (fun acc f => match f with | .headers md => md | _ => acc) acc = acc := by
  induction l generalizing acc with
  | nil => rfl
  | cons f r ih =>
    cases f <;> simp at h
    all_goals (simp only [List.foldl_cons]; exact ih _ h)

theorem hdrOf_nHdr (l : List Frame) (h : nHdr l = true) : hdrOf l = [] := hdr_foldl_nHdr l [] h

theorem hdrOf_hdrHead (hd : List Nat) (l : List Frame) (h : hdrHead hd l = true) : hdrOf l = hd := by
  cases l with
  | nil => simp at h
  | cons f r =>
    cases f <;> simp at h
    obtain ⟨⟨rfl, _⟩, hr⟩ := h
    simp only [hdrOf, List.foldl_cons]
    exact hdr_foldl_nHdr r _ hr

theorem hdrHead_prefix (hd : List Nat) (a b : List Frame) (h : hdrHead hd (a ++ b) = true) (ha : a ≠ []) :
    hdrHead hd a = true := by
  cases a with
  | nil => exact absurd rfl ha
  | cons f r =>
    cases f <;> simp at h ⊢
    exact ⟨h.1, h.2.1⟩

/-! ### reachability -/

/-- every state reachable from the initial state of a call by any sequence of enabled actions -/
def Reachable (capReq capResp : Nat) (respStream : Bool) (s : St) : Prop :=
  ∃ acts, run (init capReq capResp respStream) acts = some s

theorem isRun : Lts.IsRun step run :=
  ⟨fun _ => rfl, fun s a l => by cases h : step s a <;> simp [run, h]⟩

/-- lifting an inductive invariant to every reachable state -/
theorem reachable_induction (c1 c2 : Nat) (rs : Bool) (P : St → Prop)
    (h0 : P (init c1 c2 rs))
    (hstep : ∀ s a s' evs, P s → step s a = some (s', evs) → P s') :
    ∀ s, Reachable c1 c2 rs s → P s :=
  fun s ⟨acts, hr⟩ => isRun.induction P hstep acts _ s h0 hr

theorem reachable_step (c1 c2 : Nat) (rs : Bool) (s s' : St) (a : Act) (evs : List Ev)
    (h : Reachable c1 c2 rs s) (hs : step s a = some (s', evs)) : Reachable c1 c2 rs s' :=
  h.elim fun acts hr => ⟨acts ++ [a], isRun.snoc hs acts _ hr⟩

/-- the parameters of a call never change -/
theorem caps_const (s s' : St) (a : Act) (evs : List Ev) (hs : step s a = some (s', evs)) :
    s'.capReq = s.capReq ∧ s'.capResp = s.capResp ∧ s'.respStream = s.respStream := by
  cases a <;> invert hs [step, finishWrite] <;> exact ⟨rfl, rfl, rfl⟩

theorem reachable_params (c1 c2 : Nat) (rs : Bool) (s : St) (h : Reachable c1 c2 rs s) :
    s.capReq = c1 ∧ s.capResp = c2 ∧ s.respStream = rs :=
  reachable_induction c1 c2 rs (fun s => s.capReq = c1 ∧ s.capResp = c2 ∧ s.respStream = rs) ⟨rfl, rfl, rfl⟩
    (fun s a s' evs hp hs => by
      obtain ⟨e1, e2, e3⟩ := caps_const s s' a evs hs
      exact ⟨e1 ▸ hp.1, e2 ▸ hp.2.1, e3 ▸ hp.2.2⟩) s h

/-- a context that is live after a step was live before it -/
theorem ctx_mono (s s' : St) (a : Act) (evs : List Ev) (hs : step s a = some (s', evs)) (hc : s'.ctx = none) :
    s.ctx = none := by
  cases a <;> invert hs [step, finishWrite] <;> first | exact hc | cases hc

end InprocStream
