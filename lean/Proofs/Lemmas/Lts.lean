/-
  What the interleaving models (InprocStream, InprocUnary, HttpClientStream) share: a partial
  `step : σ → α → Option (σ × ε)` (`none` = action not enabled), `run` folding it over an action
  list, and theorems that hold in every state `run` can reach because `step` preserves them.
-/

namespace Lts
variable {σ α ε : Type} {step : σ → α → Option (σ × ε)} {run : σ → List α → Option σ}

/-- `run` is the fold of `step`. Each model's `run` satisfies both equations by `rfl`. -/
structure IsRun (step : σ → α → Option (σ × ε)) (run : σ → List α → Option σ) : Prop where
  nil : ∀ s, run s [] = some s
  cons : ∀ s a l, run s (a :: l) = match step s a with
    | some (s', _) => run s' l
    | none => none

/-- A property of a state together with the actions that led to it, preserved by `step`, holds after `run`.
    This is also how a quantity of the final state is shown to be a fold over the action list. -/
theorem IsRun.induction_acts (hr : IsRun step run) (P : List α → σ → Prop)
    (hstep : ∀ l s a s' e, P l s → step s a = some (s', e) → P (l ++ [a]) s') :
    ∀ (l : List α) (s0 s : σ), P [] s0 → run s0 l = some s → P l s := by
  intro l
  induction l generalizing P with
  | nil => intro s0 s h0 h; rw [hr.nil] at h; exact Option.some.inj h ▸ h0
  | cons a l ih =>
    intro s0 s h0 h
    rw [hr.cons] at h
    split at h
    · exact ih (fun l' => P (a :: l')) (fun l' => hstep (a :: l')) _ s (hstep [] s0 a _ _ h0 ‹_›) h
    · cases h

theorem IsRun.induction (hr : IsRun step run) (P : σ → Prop)
    (hstep : ∀ s a s' e, P s → step s a = some (s', e) → P s') :
    ∀ (l : List α) (s0 s : σ), P s0 → run s0 l = some s → P s :=
  hr.induction_acts (fun _ => P) (fun _ => hstep)

theorem IsRun.snoc (hr : IsRun step run) {a : α} {s s' : σ} {e : ε} (hs : step s a = some (s', e)) :
    ∀ (l : List α) (s0 : σ), run s0 l = some s → run s0 (l ++ [a]) = some s' := by
  intro l
  induction l with
  | nil => intro s0 h; rw [hr.nil] at h; simp [Option.some.inj h, hr.cons, hr.nil, hs]
  | cons b l ih =>
    intro s0 h
    rw [hr.cons] at h
    split at h
    · simp [hr.cons, ‹step s0 b = _›, ih _ h]
    · cases h

end Lts

/-- `invert hs [step, d₁, …]`, for `hs : step s a = some (s', evs)` (or `= some s'`) with `a` a constructor
    application (so usually after `cases a`): case analysis on every `if`/`match` of `step` (and of the
    auxiliary definitions `dᵢ` it calls). Leaves one goal per enabled branch, with `s'` and `evs` replaced by
    what that branch yields and the guards of the branch in the context. -/
macro "invert " hs:ident " [" ds:Lean.Parser.Tactic.simpLemma,* "]" : tactic =>
  `(tactic| (simp only [$ds,*] at $hs:ident <;> (repeat' split at $hs:ident) <;>
      (try simp only [Option.some.injEq, Prod.mk.injEq, reduceCtorEq] at $hs:ident) <;>
      first | (obtain ⟨h1, h2⟩ := $hs:ident; subst h1 h2) | subst $hs:ident | (exfalso; assumption)))
