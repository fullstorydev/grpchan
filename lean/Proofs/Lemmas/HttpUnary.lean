/- HttpUnary: what the handler set is what the reply carries (helper lemmas for C02 / C03) -/
import Model.HttpUnary
import Proofs.Lemmas.HttpServerStream

namespace HttpUnary
open InprocStream (HErr Reason Res codeOf)

theorem runOps_cons (s : Sts) (op : HOp) (rest : List HOp) :
    runOps s (op :: rest) = ((runOps (hstep s op).1 rest).1, (hstep s op).2 :: (runOps (hstep s op).1 rest).2) := rfl

theorem okHdr_cons (op : HOp) (ops : List HOp) (r : Res) (rs : List Res) :
    okHdr (op :: ops) (r :: rs) = okHdr [op] [r] ++ okHdr ops rs := by
  cases op <;> cases r <;> rfl

theorem trailersSet_cons (op : HOp) (ops : List HOp) : trailersSet (op :: ops) = trailersSet [op] ++ trailersSet ops := by
  cases op <;> rfl

theorem noStatusHeader_cons (op : HOp) (ops : List HOp) :
    noStatusHeader (op :: ops) = (noStatusHeader [op] && noStatusHeader ops) := by
  cases op <;> rfl

/-- what one call does to the transport stream -/
theorem hstep_hist (s : Sts) (op : HOp) :
    (hstep s op).1.hdrs = s.hdrs ++ okHdr [op] [(hstep s op).2] ∧ (hstep s op).1.tlrs = s.tlrs ++ trailersSet [op] ∧
    (noStatusHeader [op] = true → (hstep s op).1.spoof = s.spoof) := by
  cases h : s.hdrsSent <;> cases op <;> simp [hstep, h, okHdr, trailersSet, noStatusHeader]

theorem runOps_facts (ops : List HOp) : ∀ (s : Sts),
    (runOps s ops).1.hdrs = s.hdrs ++ okHdr ops (runOps s ops).2 ∧ (runOps s ops).1.tlrs = s.tlrs ++ trailersSet ops := by
  induction ops with
  | nil => intro s; simp [runOps, okHdr, trailersSet]
  | cons op rest ih =>
    intro s
    obtain ⟨h1, h2, -⟩ := hstep_hist s op
    rw [runOps_cons, okHdr_cons, trailersSet_cons, ← List.append_assoc, ← List.append_assoc, ← h1, ← h2]
    exact ih _

/-- without a status-header collision nothing is put under the protocol's status header name -/
theorem runOps_noSpoof (ops : List HOp) : ∀ (s : Sts), noStatusHeader ops = true → (runOps s ops).1.spoof = s.spoof := by
  induction ops with
  | nil => intro s _; rfl
  | cons op rest ih =>
    intro s h
    rw [noStatusHeader_cons, Bool.and_eq_true] at h
    rw [runOps_cons, ih _ h.2, (hstep_hist s op).2.2 h.1]

/-- the unary and the stream handler render the same code for the same error -/
theorem unaryCode_eq_trailerCode (e : HErr) : unaryCode e = HttpServerStream.trailerCode (some e) := by
  rcases e with c | _ | r | r <;>
    simp [unaryCode, baseCode, HttpServerStream.trailerCode, Gen.unaryOkRewrite, Gen.streamOkRewrite, codeOf]

theorem unaryCode_ne_zero (e : HErr) : unaryCode e ≠ 0 :=
  fun h => nomatch HttpServerStream.trailerCode_zero (some e) (unaryCode_eq_trailerCode e ▸ h)

end HttpUnary
