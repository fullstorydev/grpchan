import Model.Codes

namespace Prim

/-! ## decimal rendering and parsing round-trip -/

theorem digitByte_toNat (d : Nat) (h : d < 10) : (digitByte d).toNat = 48 + d :=
  UInt8.toNat_ofNat_of_lt' (show 48 + d < 256 by omega)

theorem isDigit_iff (b : UInt8) : isDigit b = true ↔ 48 ≤ b.toNat ∧ b.toNat ≤ 57 := by
  simp [isDigit, UInt8.le_iff_toNat_le]

theorem allDigits_iff (s : Bytes) : allDigits s = true ↔ s ≠ [] ∧ ∀ b ∈ s, isDigit b = true := by
  simp [allDigits]

theorem decDigits_lt (n : Nat) : ∀ d ∈ decDigits n, d < 10 := by
  induction n using decDigits.induct with
  | case1 n h => rw [decDigits, dif_pos h]; simpa using h
  | case2 n h ih =>
    rw [decDigits, dif_neg h]
    intro d hd
    rcases List.mem_append.mp hd with hd | hd
    · exact ih d hd
    · rw [List.mem_singleton.mp hd]; exact Nat.mod_lt _ (by decide)

theorem decDigits_ne_nil (n : Nat) : decDigits n ≠ [] := by
  rw [decDigits]; split <;> simp

theorem natToDec_allDigits (n : Nat) : allDigits (natToDec n) = true := by
  rw [allDigits_iff, natToDec]
  refine ⟨by simpa using decDigits_ne_nil n, ?_⟩
  intro b hb
  obtain ⟨d, hd, rfl⟩ := List.mem_map.mp hb
  have := decDigits_lt n d hd
  rw [isDigit_iff, digitByte_toNat d this]
  omega

theorem digitsVal_concat (a : Bytes) (b : UInt8) :
    digitsVal (a ++ [b]) = digitsVal a * 10 + (b.toNat - 48) := by
  simp [digitsVal]

theorem digitsVal_natToDec (n : Nat) : digitsVal (natToDec n) = n := by
  induction n using decDigits.induct with
  | case1 n h =>
    rw [natToDec, decDigits, dif_pos h]
    simp [digitsVal, digitByte_toNat n h]
  | case2 n h ih =>
    rw [natToDec, decDigits, dif_neg h, List.map_append, ← natToDec, List.map_singleton, digitsVal_concat, ih,
      digitByte_toNat _ (Nat.mod_lt _ (by decide))]
    omega

/-- a digit is none of `+`, `-`, `:` -/
theorem isDigit_ne (b : UInt8) (h : isDigit b = true) : b ≠ 43 ∧ b ≠ 45 ∧ b ≠ 58 := by
  rw [isDigit_iff] at h
  refine ⟨?_, ?_, ?_⟩ <;> (rintro rfl; revert h; decide)

theorem splitSign_of_allDigits (ds : Bytes) (h : allDigits ds = true) : splitSign ds = (false, ds) := by
  obtain ⟨hne, hd⟩ := (allDigits_iff ds).mp h
  obtain ⟨b, r, rfl⟩ := List.exists_cons_of_ne_nil hne
  obtain ⟨h43, h45, _⟩ := isDigit_ne b (hd b List.mem_cons_self)
  unfold splitSign
  split
  · rename_i heq; exact absurd (List.cons.inj heq).1 h43
  · rename_i heq; exact absurd (List.cons.inj heq).1 h45
  · rfl

theorem parseInt_digits (ds : Bytes) (h : allDigits ds = true) (bits : Nat) :
    parseInt bits ds =
      if (digitsVal ds : Int) < limOf bits then some (digitsVal ds : Int) else none := by
  simp only [parseInt, splitSign_of_allDigits ds h, h, Bool.not_true, Bool.false_eq_true, if_false]

theorem parseInt_neg_digits (ds : Bytes) (h : allDigits ds = true) (bits : Nat) :
    parseInt bits (45 :: ds) =
      if (digitsVal ds : Int) ≤ limOf bits then some (-(digitsVal ds : Int)) else none := by
  simp only [parseInt, splitSign, h, Bool.not_true, Bool.false_eq_true, if_false, if_true]

theorem limOf_32 : limOf 32 = 2147483648 := by decide
theorem limOf_64 : limOf 64 = 9223372036854775808 := by decide

/-- `strconv.ParseInt` reads back what `%d` printed, for every value of the bit size -/
theorem parseInt_intToDec (bits : Nat) (x : Int) (h : -limOf bits ≤ x ∧ x < limOf bits) :
    parseInt bits (intToDec x) = some x := by
  unfold intToDec
  split
  · rw [parseInt_neg_digits _ (natToDec_allDigits _), digitsVal_natToDec, if_pos (by omega)]
    congr 1; omega
  · rw [parseInt_digits _ (natToDec_allDigits _), digitsVal_natToDec, if_pos (by omega)]
    congr 1; omega

theorem intToDec_natCast (n : Nat) : intToDec (n : Int) = natToDec n := by
  unfold intToDec
  rw [if_neg (by omega), Int.natAbs_natCast]

theorem intToDec_ne_nil (x : Int) : intToDec x ≠ [] := by
  unfold intToDec
  split
  · exact List.cons_ne_nil _ _
  · exact ((allDigits_iff _).mp (natToDec_allDigits _)).1

theorem intToDec_no_colon (x : Int) : ∀ y ∈ intToDec x, y ≠ 58 := by
  have hd : ∀ y ∈ natToDec x.natAbs, y ≠ 58 := fun y hy =>
    (isDigit_ne y (((allDigits_iff _).mp (natToDec_allDigits _)).2 y hy)).2.2
  unfold intToDec
  split
  · exact List.forall_mem_cons.mpr ⟨by decide, hd⟩
  · exact hd

/-! ## `strings.SplitN(s, sep, 2)`: the split is at the first separator -/

theorem splitN2_no_sep (a m : Bytes) (c : UInt8) (h : ∀ x ∈ a, x ≠ c) :
    splitN2 (a ++ c :: m) c = [a, m] := by
  have hidx : List.findIdx (· == c) (a ++ c :: m) = a.length := by
    rw [List.findIdx_append, List.findIdx_eq_length_of_false (by simpa using h)]
    simp [List.findIdx_cons]
  simp [splitN2, indexByte, hidx]

theorem splitN2_not_mem (x : Bytes) (c : UInt8) (h : ∀ y ∈ x, y ≠ c) : splitN2 x c = [x] := by
  simp [splitN2, indexByte, List.findIdx_eq_length_of_false (p := (· == c)) (by simpa using h)]

theorem splitN2_cases (x : Bytes) (c : UInt8) :
    (splitN2 x c = [x] ∧ ∀ y ∈ x, y ≠ c) ∨
    (∃ a b, splitN2 x c = [a, b] ∧ x = a ++ c :: b ∧ ∀ y ∈ a, y ≠ c) := by
  by_cases h : c ∈ x
  · obtain ⟨a, b, rfl, ha⟩ := List.eq_append_cons_of_mem h
    have ha' : ∀ y ∈ a, y ≠ c := fun y hy e => ha (e ▸ hy)
    exact .inr ⟨a, b, splitN2_no_sep a b c ha', rfl, ha'⟩
  · have h' : ∀ y ∈ x, y ≠ c := fun y hy e => h (e ▸ hy)
    exact .inl ⟨splitN2_not_mem x c h', h'⟩

end Prim

namespace Codes
open Prim

/-! ## lifting lemmas for the table interpreters (proved once, table-independent) -/

/-- the first row with key `k`, if any: what `lookup` and `lookupI` both match on -/
theorem find?_fst_cases {α β : Type} [BEq α] [LawfulBEq α] (t : List (α × β)) (k : α) :
    t.find? (·.1 == k) = none ∨ ∃ v, (k, v) ∈ t ∧ t.find? (·.1 == k) = some (k, v) := by
  cases h : t.find? (·.1 == k) with
  | none => exact .inl rfl
  | some p =>
    have hk : p.1 = k := by simpa using List.find?_some h
    exact .inr ⟨p.2, hk ▸ List.mem_of_find?_eq_some h, by rw [← hk]⟩

theorem lookup_mem_or_default (t : List (Nat × Nat)) (d c : Nat) :
    lookup t d c = d ∨ ∃ p ∈ t, p.1 = c ∧ lookup t d c = p.2 := by
  unfold lookup
  rcases find?_fst_cases t c with h | ⟨v, hv, h⟩ <;> rw [h]
  · exact .inl rfl
  · exact .inr ⟨_, hv, rfl, rfl⟩

theorem lookupI_mem_or_default (t : List (Int × Nat)) (d : Nat) (s : Int) :
    lookupI t d s = d ∨ ∃ p ∈ t, p.1 = s ∧ lookupI t d s = p.2 := by
  unfold lookupI
  rcases find?_fst_cases t s with h | ⟨v, hv, h⟩ <;> rw [h]
  · exact .inl rfl
  · exact .inr ⟨_, hv, rfl, rfl⟩

theorem lookupI_of_forall {P : Nat → Prop} {t : List (Int × Nat)} {d : Nat}
    (hd : P d) (ht : ∀ p ∈ t, P p.2) (s : Int) : P (lookupI t d s) := by
  rcases lookupI_mem_or_default t d s with h | ⟨p, hp, _, h⟩ <;> rw [h]
  · exact hd
  · exact ht p hp

theorem rangeLookup_cases (rs : List (Int × Int × List (Int × Nat) × Nat)) (d : Nat) (s : Int) :
    (rangeLookup rs d s = d ∧ ∀ r ∈ rs, ¬ (r.1 ≤ s ∧ s < r.2.1)) ∨
    ∃ r ∈ rs, (r.1 ≤ s ∧ s < r.2.1) ∧ rangeLookup rs d s = lookupI r.2.2.1 r.2.2.2 s := by
  induction rs with
  | nil => exact .inl ⟨rfl, nofun⟩
  | cons r rest ih =>
    obtain ⟨lo, hi, inner, idef⟩ := r
    unfold rangeLookup
    by_cases h : lo ≤ s ∧ s < hi
    · rw [if_pos h]
      exact .inr ⟨_, List.mem_cons_self, h, rfl⟩
    · rw [if_neg h]
      rcases ih with ⟨e, hn⟩ | ⟨r, hr, hin, e⟩
      · exact .inl ⟨e, List.forall_mem_cons.mpr ⟨h, hn⟩⟩
      · exact .inr ⟨r, List.mem_cons_of_mem _ hr, hin, e⟩

/-- A finite criterion for a range switch to answer `v` exactly on `[lo, hi)`: the default is not `v`,
    some range covers the interval, and every range either lies inside it and answers only `v`
    or lies outside it and never answers `v`. -/
theorem rangeLookup_eq_iff (rs : List (Int × Int × List (Int × Nat) × Nat)) (d v : Nat) (lo hi s : Int)
    (hd : d ≠ v) (hcover : ∃ r ∈ rs, r.1 ≤ lo ∧ hi ≤ r.2.1)
    (hrs : ∀ r ∈ rs,
      (lo ≤ r.1 ∧ r.2.1 ≤ hi ∧ r.2.2.2 = v ∧ ∀ p ∈ r.2.2.1, p.2 = v) ∨
      ((r.2.1 ≤ lo ∨ hi ≤ r.1) ∧ r.2.2.2 ≠ v ∧ ∀ p ∈ r.2.2.1, p.2 ≠ v)) :
    rangeLookup rs d s = v ↔ lo ≤ s ∧ s < hi := by
  rcases rangeLookup_cases rs d s with ⟨e, hn⟩ | ⟨r, hr, hin, e⟩ <;> rw [e]
  · obtain ⟨r, hr, h1, h2⟩ := hcover
    have := hn r hr
    exact ⟨fun h => absurd h hd, fun h => by omega⟩
  · rcases hrs r hr with ⟨h1, h2, h3, h4⟩ | ⟨h1, h3, h4⟩
    · exact ⟨fun _ => by omega, fun _ => lookupI_of_forall (P := (· = v)) h3 h4 s⟩
    · exact ⟨fun h => absurd h (lookupI_of_forall (P := (· ≠ v)) h3 h4 s), fun _ => by omega⟩

/-! ## the status header read back -/

theorem parseCode_intToDec (code0 : Nat) (x : Int) (h : -limOf 32 ≤ x ∧ x < limOf 32) :
    parseCode code0 (intToDec x) = (wrapU32 x).toNat := by
  unfold parseCode
  rw [parseInt_intToDec 32 x h]

/-- What the client reads from a status header written for the `int32` code `x`. About a variable `x`
    on purpose: with `wrap32 c` in its place the kernel, comparing the unfolded sides, evaluates
    `intToDec`'s sign test and runs into unary arithmetic on `2^31`. -/
theorem clientCodeMsg_intToDec (httpStatus : Int) (statusText msg : Bytes) (x : Int)
    (h : -limOf 32 ≤ x ∧ x < limOf 32) :
    clientCodeMsg httpStatus statusText (some (intToDec x ++ [58] ++ msg)) = ((wrapU32 x).toNat, msg) := by
  have hne : (intToDec x).isEmpty = false := by simpa using intToDec_ne_nil x
  simp only [clientCodeMsg, List.append_assoc, List.singleton_append,
    splitN2_no_sep _ _ _ (intToDec_no_colon x), codeMsgOfParts, hne, parseCode_intToDec _ x h,
    Bool.false_eq_true, if_false]

end Codes
