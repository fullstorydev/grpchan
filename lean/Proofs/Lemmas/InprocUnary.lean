/-
  Invariants of the InprocUnary transition system (helper lemmas for C02, C03, C04, C06, C08).
-/
import Model.InprocUnary
import Proofs.Lemmas.Lts

namespace InprocUnary
open InprocStream (Reason HErr Res codeOf translate)

def Reachable (cap : Nat) (s : St) : Prop := ∃ acts, run (init cap) acts = some s

theorem isRun : Lts.IsRun step run :=
  ⟨fun _ => rfl, fun s a l => by cases h : step s a <;> simp [run, h]⟩

theorem reachable_induction (cap : Nat) (P : St → Prop) (h0 : P (init cap))
    (hstep : ∀ s a s' evs, P s → step s a = some (s', evs) → P s') : ∀ s, Reachable cap s → P s := by
  intro s ⟨acts, hr⟩
  exact isRun.induction P hstep acts _ s h0 hr

/-- the caller's receive loop as a pure function of the frames it has taken -/
structure CView where
  got : Bool := false
  resp : Option Nat := none
  hdr : Option (List Nat) := none
  tlr : Option (List Nat) := none
  res : Option Res := none
deriving DecidableEq, Repr

def cstep (v : CView) (f : UFrame) : CView :=
  if v.res.isSome then v else
  match f with
  | .err e => { v with res := some (translate e) }
  | .data x => if v.got then { v with res := some (.status 13) } else { v with got := true, resp := some x }
  | .headers md => { v with hdr := some md }
  | .trailers md => { v with tlr := some md }

def cview (l : List UFrame) : CView := l.foldl cstep {}

@[simp] theorem cview_nil : cview [] = {} := rfl
@[simp] theorem cview_snoc (l : List UFrame) (f : UFrame) : cview (l ++ [f]) = cstep (cview l) f := by
  simp [cview, List.foldl_append]

/-- what Invoke must report for a given handler result (live context) -/
def expectedU : Option Nat × Option HErr → Res
  | (_, some e) => translate e
  | (none, none) => .status 13
  | (some _, none) => .ok

def mdOpt (l : List Nat) : Option (List Nat) := if l.isEmpty then none else some l

def dataCount : List UFrame → Nat
  | [] => 0
  | .data _ :: r => dataCount r + 1
  | _ :: r => dataCount r

@[simp] theorem dataCount_nil : dataCount [] = 0 := rfl
@[simp] theorem dataCount_data (x : Nat) (r : List UFrame) : dataCount (.data x :: r) = dataCount r + 1 := rfl
@[simp] theorem dataCount_headers (x : List Nat) (r : List UFrame) : dataCount (.headers x :: r) = dataCount r := rfl
@[simp] theorem dataCount_trailers (x : List Nat) (r : List UFrame) : dataCount (.trailers x :: r) = dataCount r := rfl
@[simp] theorem dataCount_err (x : HErr) (r : List UFrame) : dataCount (.err x :: r) = dataCount r := rfl
@[simp] theorem dataCount_append (a b : List UFrame) : dataCount (a ++ b) = dataCount a + dataCount b := by
  induction a with
  | nil => simp
  | cons f r ih => cases f <;> simp [ih] <;> omega

theorem dataCount_le_cons (f : UFrame) (r : List UFrame) : dataCount r ≤ dataCount (f :: r) := by
  cases f <;> simp

/-- only a `data` frame makes the caller's loop record a response -/
theorem foldl_got (l : List UFrame) (v0 : CView) (h : dataCount l = 0) : (l.foldl cstep v0).got = v0.got := by
  induction l generalizing v0 with
  | nil => rfl
  | cons f r ih => cases f <;> simp_all [cstep] <;> split <;> rfl

theorem cview_got (l : List UFrame) (h : (cview l).got = true) : 1 ≤ dataCount l :=
  Nat.pos_of_ne_zero fun h0 => by simp [cview, foldl_got l {} h0] at h

theorem dataCount_framesOf (h t : List Nat) (v : Option Nat) (e : Option HErr) : dataCount (framesOf h t v e) ≤ 1 := by
  unfold framesOf
  cases v <;> cases e <;> cases h <;> cases t <;> simp

theorem err_mem_framesOf (h t : List Nat) (v : Option Nat) (e : Option HErr) (x : HErr)
    (hm : UFrame.err x ∈ framesOf h t v e) : translate x = expectedU (v, e) := by
  unfold framesOf at hm
  cases v <;> cases e <;> cases h <;> cases t <;> simp at hm <;> simp [hm, expectedU, translate]

/-- a response: the caller holds it and all metadata, and is still undecided (it goes on to see the
    closed channel); otherwise the last frame was the error frame, which decided the call -/
theorem cview_framesOf (h t : List Nat) (v : Option Nat) (e : Option HErr) :
    cview (framesOf h t v e) =
      match v, e with
      | some x, none => { got := true, resp := some x, hdr := mdOpt h, tlr := mdOpt t }
      | _, _ => { hdr := mdOpt h, tlr := mdOpt t, res := some (expectedU (v, e)) } := by
  cases v <;> cases e <;> cases h <;> cases t <;> rfl

structure UInv (s : St) : Prop where
  q : s.enq = s.deq ++ s.ch
  pc0 : s.pc = 0 → s.frames = [] ∧ s.enq = [] ∧ s.hRet = none ∧ s.chClosed = false
  pcle : s.pc ≤ 2
  pcRet : s.pc ≠ 0 → s.hRet.isSome = true
  live : svrCtxDone s = false → ∀ v e, s.hRet = some (v, e) → s.enq ++ s.frames = framesOf s.hHdr s.hTlr v e
  mem : ∀ f, (f ∈ s.enq ∨ f ∈ s.frames) → ∀ v e, s.hRet = some (v, e) → f ∈ framesOf s.hHdr s.hTlr v e
  retRes : s.returned = true → s.result.isSome = true
  vGot : s.gotResponse = (cview s.deq).got
  vResp : s.respCopied = (cview s.deq).resp
  vHdr : s.cHdr = (cview s.deq).hdr
  vTlr : s.cTlr = (cview s.deq).tlr
  vRes : s.result = none → (cview s.deq).res = none
  closed : s.chClosed = true → s.pc = 2 ∧ s.frames = []
  pc2 : s.pc = 2 → s.chClosed = true
  rd : s.reading = true → s.returned = false ∧ s.pc = 0
  rar : s.readAfterReturn = false
  g1 : s.guardDecode = true
  g2 : s.recheckClose = true

theorem uinv_init (cap : Nat) : UInv (init cap) := by
  constructor <;> simp [init, svrCtxDone]

/- Where an action does not leave a clause alone: the handler's calls change `hHdr`/`hTlr` only while
   `hRet = none` (`pc0`), where `live` and `mem` say nothing, and `hReturn` starts them with `enq = []`;
   `wEnq`/`wSkip` move a frame from `frames` to `enq` or, the context being done (no `live`), drop it;
   `cTake` is `cstep` on the caller's fields, and `cstep` still listens because `vRes` has `res = none`;
   the decode begins only before the return, and the return waits for it (`g1`). -/
theorem uinv_step (s : St) (a : Act) (s' : St) (evs : List Ev) (h : UInv s) (hs : step s a = some (s', evs)) :
    UInv s' := by
  obtain ⟨h1, h2, h3, h4, h5, h6, h7, h8, h9, h10, h11, h12, h13, h14, h15, h16, h17, h18⟩ := h
  -- the guard `result.isSome` of the caller's loop is read as `result = none`, the form `vRes` asks for
  cases a <;> invert hs [step, Option.isSome_iff_ne_none, ite_not] <;> constructor <;>
    first | assumption | (simp [*, svrCtxDone, cstep]; done) | grind [svrCtxDone, cstep, cview_snoc]

theorem uinv_reachable (cap : Nat) (s : St) (h : Reachable cap s) : UInv s :=
  reachable_induction cap UInv (uinv_init cap) uinv_step s h

theorem UInv.ret {s : St} (hu : UInv s) (h : s.pc ≠ 0) : ∃ v e, s.hRet = some (v, e) :=
  let ⟨(v, e), hr⟩ := Option.isSome_iff_exists.1 (hu.pcRet h)
  ⟨v, e, hr⟩

/-- the server goroutine never puts more than one response on the channel -/
structure UCnt (s : St) : Prop where
  cnt : dataCount (s.enq ++ s.frames) ≤ 1

theorem ucnt_init (cap : Nat) : UCnt (init cap) := by constructor; simp [init]

theorem ucnt_step (s : St) (a : Act) (s' : St) (evs : List Ev) (hu : UInv s) (h : UCnt s) (hs : step s a = some (s', evs)) :
    UCnt s' := by
  have h1 := h.cnt
  have hpc0 := hu.pc0
  cases a <;> invert hs [step] <;> constructor <;> first | assumption | simp_all [dataCount_framesOf]
  -- left: `wSkip` drops a frame
  exact Nat.le_trans (Nat.add_le_add_left (dataCount_le_cons _ _) _) h1

end InprocUnary
