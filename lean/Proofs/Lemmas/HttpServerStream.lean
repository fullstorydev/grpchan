/-
  Invariants of the HttpServerStream system (server side of an HTTP streaming call): the shape of
  what reaches the wire, the header block, the trailer's content, and the request side.
-/
import Model.HttpServerStream
import Proofs.Lemmas.Lts

namespace HttpServerStream
open InprocStream (HErr Reason Res codeOf)

def isData : Out → Bool | .data _ => true | _ => false
def isTrailer : Out → Bool | .trailer _ _ => true | _ => false

/-- data frames, then at most one trailer frame, which is last -/
def framesOK : List Out → Bool
  | [] => true
  | [.trailer _ _] => true
  | .data _ :: r => framesOK r
  | _ => false

/-- nothing, or the header block followed by well-formed frames -/
def wellFormed : List Out → Bool
  | [] => true
  | .head _ :: r => framesOK r
  | _ => false

def allData (l : List Out) : Bool := l.all isData

theorem allData_cons (f : Out) (r : List Out) : allData (f :: r) = (isData f && allData r) := by
  simp [allData]

/-- `framesOK` looks at what follows the data frames -/
theorem framesOK_append (l r : List Out) (h : allData l = true) : framesOK (l ++ r) = framesOK r := by
  induction l with
  | nil => rfl
  | cons f l ih =>
    rw [allData_cons, Bool.and_eq_true] at h
    cases f with
    | data m => simpa [framesOK] using ih h.2
    | _ => simp [isData] at h

/-- the frames after the header block -/
def frames : List Out → List Out
  | [] => []
  | _ :: r => r

/-- the decodable messages of a request body, in order -/
def dataOK : List ReqItem → List Nat
  | [] => []
  | .data m true :: r => m :: dataOK r
  | _ :: r => dataOK r

theorem dataOK_append (a b : List ReqItem) : dataOK (a ++ b) = dataOK a ++ dataOK b := by
  induction a with
  | nil => rfl
  | cons f r ih =>
    cases f with
    | cut => simpa [dataOK] using ih
    | data m d => cases d <;> simp [dataOK, ih]

structure Inv (req0 : List ReqItem) (s : St) : Prop where
  hw : s.headWritten = !s.wire.isEmpty
  hs : s.finished = false → s.headWritten = true → s.headersSent = true
  hd : s.hdrs = s.hdrOK
  head : s.headWritten = true → s.wire.head? = some (.head s.hdrOK)
  live : s.finished = false → allData (frames s.wire) = true
  wf : wellFormed s.wire = true
  reqs : ∃ t, req0 = s.consumed ++ t ∧ (s.req = t ∨ s.req = [])
  rcv0 : s.recvd = 0 → s.consumed = [] ∧ s.received = []
  single : s.clientStreams = false → s.received = [] ∨ ∃ m, s.received = [m] ∧ req0 = [.data m true]
  multi : s.clientStreams = true → s.received = dataOK s.consumed

theorem inv_init (cs : Bool) (req : List ReqItem) : Inv req (init cs req) := by
  constructor <;> simp [init, frames, allData, wellFormed, dataOK]

theorem wellFormed_head_frames (w : List Out) (h : List Nat) (hd : w.head? = some (.head h)) (hf : framesOK (frames w) = true) :
    wellFormed w = true := by
  cases w with
  | nil => simp at hd
  | cons f r => simp at hd; subst hd; simpa [wellFormed, frames] using hf

variable {req0 : List ReqItem} {s s' : St} {a : Act} {r : Res}

@[simp] theorem frames_cons (f : Out) (l : List Out) : frames (f :: l) = l := rfl

theorem step_finished (hf : s.finished = true) : step s a = stepFinished s a := by simp [step, hf]

theorem step_live (hf : s.finished = false) : step s a = stepLive s a := by simp [step, hf]

/-- whether or not the header block is out yet, forcing it out leaves it in front of the frames written so far -/
theorem Inv.withHead_eq (h : Inv req0 s) : withHead s = .head s.hdrOK :: frames s.wire := by
  have hw := h.hw; have hd := h.head
  unfold withHead
  cases hwire : s.wire with
  | nil => simp [hwire] at hw; simp [hw, frames, h.hd]
  | cons f r => simp [hwire] at hw hd; simp [hw, frames, hd hw]

/-- while SetHeader is still allowed nothing has been written -/
theorem Inv.unsent (h : Inv req0 s) (hf : s.finished = false) (hs : ¬s.headersSent = true) : s.wire = [] := by
  have hw := h.hw
  cases hwr : s.headWritten with
  | true => exact absurd (h.hs hf hwr) hs
  | false => simpa [hwr] using hw

/-- RecvMsg takes the next item off the body -/
theorem Inv.take {x : ReqItem} {rest : List ReqItem} (h : Inv req0 s) (hreq : s.req = x :: rest) :
    req0 = (s.consumed ++ [x]) ++ rest := by
  obtain ⟨t, ht, rfl | h0⟩ := h.reqs
  · rw [ht, hreq, List.append_assoc]; rfl
  · rw [h0] at hreq; cases hreq

theorem inv_step (h : Inv req0 s) (hst : step s a = some (s', r)) : Inv req0 s' := by
  cases hf : s.finished
  case true =>
    rw [step_finished hf] at hst
    cases a <;> invert hst [stepFinished]
    exact { h with }
  rw [step_live hf] at hst
  have hlive := h.live hf
  cases a with
  | breakConn | setTrailer md => invert hst [stepLive]; exact { h with }
  | setHeader md =>
    invert hst [stepLive]
    · exact { h with }
    · have hwe := h.unsent hf ‹_›
      exact { h with hd := by simp [h.hd], head := by simp [h.hw, hwe] }
  | sendHeader md =>
    invert hst [stepLive]
    · exact { h with }
    · have hwe := h.unsent hf ‹_›
      exact { h with hw := by simp, hs := by simp, hd := by simp [h.hd], head := by simp [hwe, h.hd],
                     live := by simp [hwe, allData], wf := by simp [hwe, wellFormed, framesOK] }
  | send m enc =>
    invert hst [stepLive]
    · exact { h with }
    · exact { h with hs := by simp }
    · exact { h with hw := by simp [h.withHead_eq], hs := by simp, head := by simp [h.withHead_eq],
                     live := fun _ => by simpa [h.withHead_eq, allData, isData] using hlive,
                     wf := by simp [h.withHead_eq, wellFormed, framesOK_append _ _ hlive, framesOK] }
  | ret e =>
    invert hst [stepLive]
    · exact { h with hs := by simp, live := by simp }
    · exact { h with hw := by simp [h.withHead_eq], hs := by simp, head := by simp [h.withHead_eq], live := by simp,
                     wf := by simp [h.withHead_eq, wellFormed, framesOK_append _ _ hlive, framesOK] }
  | recv =>
    invert hst [stepLive]
    · exact { h with }
    · exact { h with rcv0 := by simp }
    · rename_i rest hreq
      exact { h with reqs := ⟨rest, h.take hreq, .inr rfl⟩, rcv0 := by simp,
                     multi := fun hcs => by simp [dataOK_append, dataOK, h.multi hcs] }
    · rename_i m dec rest hreq hdec
      obtain rfl : dec = false := by simpa using hdec
      exact { h with reqs := ⟨rest, h.take hreq, .inl rfl⟩, rcv0 := by simp,
                     multi := fun hcs => by simp [dataOK_append, dataOK, h.multi hcs] }
    · rename_i m dec rest hreq hdec hmany
      exact { h with reqs := ⟨rest, h.take hreq, .inl rfl⟩, rcv0 := by simp,
                     multi := fun hcs => by simp [show s.clientStreams = true from hcs] at hmany }
    · rename_i hgate _ m dec rest hreq hdec hmany
      obtain rfl : dec = true := by simpa using hdec
      refine { h with reqs := ⟨rest, h.take hreq, .inl rfl⟩, rcv0 := by simp,
                      multi := fun hcs => by simp [dataOK_append, dataOK, h.multi hcs], single := fun hcs => .inr ⟨m, ?_⟩ }
      -- a single-request method delivers only on the first call, and only if nothing follows the frame
      have hcs : s.clientStreams = false := hcs
      obtain ⟨hc0, hr0⟩ := h.rcv0 (by simpa [hcs] using hgate)
      obtain rfl : rest = [] := by simpa [hcs] using hmany
      exact ⟨by simp [hr0], by simpa [hc0] using h.take hreq⟩

/-! ### histories -/

/-- the metadata the handler passed to SetTrailer, in call order -/
def trailersSet : List Act → List Nat
  | [] => []
  | .setTrailer md :: r => md :: trailersSet r
  | _ :: r => trailersSet r

/-- the metadata of the SetHeader / SendHeader calls that returned nil, in call order -/
def okHdr : List Act → List Res → List Nat
  | .setHeader md :: as, .ok :: rs => md :: okHdr as rs
  | .sendHeader md :: as, .ok :: rs => md :: okHdr as rs
  | _ :: as, _ :: rs => okHdr as rs
  | _, _ => []

/-- the messages RecvMsg delivered, in order -/
def msgsOf : List Res → List Nat
  | [] => []
  | .msg m :: r => m :: msgsOf r
  | _ :: r => msgsOf r

theorem trailersSet_cons (a : Act) (r : List Act) : trailersSet (a :: r) = trailersSet [a] ++ trailersSet r := by
  cases a <;> rfl

theorem okHdr_cons (a : Act) (as : List Act) (r : Res) (rs : List Res) : okHdr (a :: as) (r :: rs) = okHdr [a] [r] ++ okHdr as rs := by
  cases a <;> cases r <;> rfl

theorem msgsOf_cons (r : Res) (rs : List Res) : msgsOf (r :: rs) = msgsOf [r] ++ msgsOf rs := by
  cases r <;> rfl

theorem step_hist (h : step s a = some (s', r)) :
    s'.clientStreams = s.clientStreams ∧ s'.tr = s.tr ++ trailersSet [a] ∧ s'.hdrOK = s.hdrOK ++ okHdr [a] [r] ∧
    s'.received = s.received ++ msgsOf [r] := by
  cases a <;> invert h [step, stepLive, stepFinished] <;> simp [trailersSet, okHdr, msgsOf]

theorem run_cons {s : St} {a : Act} {acts : List Act} {s' : St} {rs : List Res} (h : run s (a :: acts) = some (s', rs)) :
    ∃ s1 r rs', step s a = some (s1, r) ∧ run s1 acts = some (s', rs') ∧ rs = r :: rs' := by
  simp only [run] at h
  split at h
  · split at h
    · cases h; exact ⟨_, _, _, ‹_›, ‹_›, rfl⟩
    · cases h
  · cases h

variable {acts : List Act} {rs : List Res}

/-- induction over `run` as a relation between start state, calls, results and end state -/
@[elab_as_elim]
theorem run_induction {P : St → List Act → List Res → St → Prop} (nil : ∀ s, P s [] [] s)
    (cons : ∀ {s a s1 r acts rs s'}, step s a = some (s1, r) → P s1 acts rs s' → P s (a :: acts) (r :: rs) s')
    (h : run s acts = some (s', rs)) : P s acts rs s' := by
  induction acts generalizing s rs with
  | nil => cases h; exact nil _
  | cons a acts ih =>
    obtain ⟨s1, r, rs', hs, hr, rfl⟩ := run_cons h
    exact cons hs (ih hr)

/-- what every step preserves holds after a run -/
theorem run_inv {P : St → Prop} (hstep : ∀ {s a s' r}, P s → step s a = some (s', r) → P s')
    (h : run s acts = some (s', rs)) : P s → P s' :=
  run_induction (fun _ hp => hp) (fun hs ih hp => ih (hstep hp hs)) h

theorem run_hist (h : run s acts = some (s', rs)) :
    s'.clientStreams = s.clientStreams ∧ s'.tr = s.tr ++ trailersSet acts ∧ s'.hdrOK = s.hdrOK ++ okHdr acts rs ∧
    s'.received = s.received ++ msgsOf rs := by
  refine run_induction (fun s => by simp [trailersSet, okHdr, msgsOf]) (fun hs ih => ?_) h
  obtain ⟨c1, t1, h1, m1⟩ := step_hist hs
  obtain ⟨c2, t2, h2, m2⟩ := ih
  exact ⟨c2.trans c1, by rw [trailersSet_cons, t2, t1, List.append_assoc], by rw [okHdr_cons, h2, h1, List.append_assoc],
    by rw [msgsOf_cons, m2, m1, List.append_assoc]⟩

/-- a state reached from `init`: the invariant holds and the ghost fields are the history -/
theorem run_init {cs : Bool} {req : List ReqItem} (h : run (init cs req) acts = some (s, rs)) :
    Inv req s ∧ s.clientStreams = cs ∧ s.tr = trailersSet acts ∧ s.hdrOK = okHdr acts rs ∧ s.received = msgsOf rs :=
  ⟨run_inv inv_step h (inv_init cs req), run_hist h⟩

/-- the trailer says OK only if the handler returned nil -/
theorem trailerCode_zero (e : Option HErr) : trailerCode e = 0 → e = none := by
  rcases e with _ | c | _ | r | r <;> simp [trailerCode, Gen.streamOkRewrite, codeOf]
  -- a status error that says OK goes out as Internal
  split <;> omega

/-- the handler's return over an intact connection puts the trailer frame behind the (forced) header block -/
theorem step_ret_wire {s1 : St} {e : Option HErr} (h : step s1 (.ret e) = some (s, r)) (hw : s.writeFailed = false)
    (hc : s.connBroken = false) : s1.finished = false ∧ s.wire = withHead s1 ++ [Out.trailer (trailerCode e) s1.tr] := by
  invert h [step, stepLive, stepFinished]
  · simp_all
  · exact ⟨by simpa using ‹¬s1.finished = true›, rfl⟩

/-- A reply over an intact connection: the header block with exactly the metadata of the successful
    SetHeader/SendHeader calls, then data frames only, then one trailer frame carrying the handler's
    status code and every SetTrailer metadata in call order. -/
theorem reply_complete (cs : Bool) (req : List ReqItem) (acts : List Act) (s1 : St) (rs : List Res) (e : Option HErr)
    (s : St) (r : Res) (h1 : run (init cs req) acts = some (s1, rs)) (h2 : step s1 (.ret e) = some (s, r))
    (hw : s.writeFailed = false) (hc : s.connBroken = false) :
    ∃ fs, allData fs = true ∧ s.wire = .head (okHdr acts rs) :: (fs ++ [.trailer (trailerCode e) (trailersSet acts)]) := by
  obtain ⟨hi, -, ht, hh, -⟩ := run_init h1
  obtain ⟨hf, hwire⟩ := step_ret_wire h2 hw hc
  refine ⟨frames s1.wire, hi.live hf, ?_⟩
  rw [hwire, hi.withHead_eq, hh, ht]; rfl

end HttpServerStream
