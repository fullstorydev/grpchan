import Model.Framing

namespace Framing
open Prim

variable {b m rest : Bytes} {e : Ending} {sz : Int} {o : Outcome} {al : List Nat}

/-! ## byte order -/

theorem be32_length (n : Nat) : (be32 n).length = 4 := rfl

theorem u32_lt (a b c d : UInt8) : u32 a b c d < 4294967296 := by
  unfold u32
  have := a.toNat_lt; have := b.toNat_lt; have := c.toNat_lt; have := d.toNat_lt
  omega

/-- the base-256 digit of weight `k` extends `n % k` to `n % (k * 256)` -/
theorem mod_digit (n k k' : Nat) (h : k * 256 = k') : n / k % 256 * k + n % k = n % k' := by
  rw [← h, Nat.mod_mul, Nat.mul_comm, Nat.add_comm]

theorem be32_eq (n : Nat) : ∃ a b c d : UInt8, be32 n = [a, b, c, d] ∧ u32 a b c d = n % 4294967296 := by
  refine ⟨_, _, _, _, rfl, ?_⟩
  unfold u32
  simp only [UInt8.toNat_ofNat_of_lt' (Nat.mod_lt _ (by decide : 0 < 256))]
  rw [Nat.add_assoc, Nat.add_assoc, mod_digit n 256 65536 rfl, mod_digit n 65536 16777216 rfl,
    mod_digit n 16777216 4294967296 rfl]

theorem digit_inj {x y d d' : Nat} (hd : d < 256) (hd' : d' < 256) (h : x * 256 + d = y * 256 + d') :
    x = y ∧ d = d' := by
  omega

theorem u32_inj {a b c d a' b' c' d' : UInt8} (h : u32 a b c d = u32 a' b' c' d') :
    a = a' ∧ b = b' ∧ c = c' ∧ d = d' := by
  have horner (a b c d : UInt8) :
      u32 a b c d = ((a.toNat * 256 + b.toNat) * 256 + c.toNat) * 256 + d.toNat := by
    unfold u32; omega
  rw [horner, horner] at h
  obtain ⟨h, hd⟩ := digit_inj d.toNat_lt d'.toNat_lt h
  obtain ⟨h, hc⟩ := digit_inj c.toNat_lt c'.toNat_lt h
  obtain ⟨ha, hb⟩ := digit_inj b.toNat_lt b'.toNat_lt h
  exact ⟨UInt8.toNat_inj.mp ha, UInt8.toNat_inj.mp hb, UInt8.toNat_inj.mp hc, UInt8.toNat_inj.mp hd⟩

theorem be32_u32 (a b c d : UInt8) : be32 (u32 a b c d) = [a, b, c, d] := by
  obtain ⟨a', b', c', d', h, hu⟩ := be32_eq (u32 a b c d)
  rw [Nat.mod_eq_of_lt (u32_lt a b c d)] at hu
  obtain ⟨rfl, rfl, rfl, rfl⟩ := u32_inj hu
  exact h

/-- a size read as non-negative is the one `be32` writes -/
theorem be32_of_i32 {a b c d : UInt8} {n : Nat} (h : i32 a b c d = n) : be32 n = [a, b, c, d] := by
  have := u32_lt a b c d
  have hu : u32 a b c d = n := by
    unfold i32 at h; split at h <;> omega
  rw [← hu, be32_u32]

theorem wrap32_natCast {n : Nat} (h : n < 2147483648) : wrap32 n = n := by
  unfold wrap32 two31 two32; omega

/-! ## the reader primitives -/

theorem readSize_cons4 (a b c d : UInt8) (rest : Bytes) (e : Ending) :
    readSize (a :: b :: c :: d :: rest) e = .ok (i32 a b c d, rest) := rfl

/-- what `binary.Write` takes as an `int32`, `binary.Read` gives back as Go's `int32(n)`, whatever `n` -/
theorem readSize_be32_wrap (n : Nat) (rest : Bytes) (e : Ending) :
    readSize (be32 n ++ rest) e = .ok (wrap32 n, rest) := by
  obtain ⟨a, b, c, d, h, hu⟩ := be32_eq n
  have hi : i32 a b c d = wrap32 n := by
    unfold i32 wrap32 two31 two32
    rw [hu]; split <;> omega
  rw [h, ← hi]; rfl

/-- reading the prefix of a frame written for a payload of length `n < 2^31` -/
theorem readSize_be32 (n : Nat) (rest : Bytes) (e : Ending) (hn : n < 2147483648) :
    readSize (be32 n ++ rest) e = .ok ((n : Int), rest) := by
  rw [readSize_be32_wrap, wrap32_natCast hn]

/-- reading the prefix of the final frame written for a payload of length `0 < n ≤ 2^31` -/
theorem readSize_be32_neg (n : Nat) (rest : Bytes) (e : Ending) (h0 : 0 < n) (hn : n ≤ 2147483648) :
    readSize (be32 ((4294967296 - n) % 4294967296) ++ rest) e = .ok (-(n : Int), rest) := by
  have : wrap32 ((4294967296 - n) % 4294967296 : Nat) = -(n : Int) := by
    unfold wrap32 two31 two32; omega
  rw [readSize_be32_wrap, this]

theorem readSize_encodeFrame (m rest : Bytes) (e : Ending) :
    readSize (encodeFrame m ++ rest) e = .ok (wrap32 m.length, m ++ rest) := by
  unfold encodeFrame; rw [List.append_assoc, readSize_be32_wrap]

theorem readSize_short (b : Bytes) (e : Ending) (h : b.length < 4) :
    ∃ er, readSize b e = .error er := by
  match b, h with
  | [], _ | [_], _ | [_, _], _ | [_, _, _], _ => cases e <;> exact ⟨_, rfl⟩
  | _ :: _ :: _ :: _ :: _, h => simp at h; omega

/-- shape of a successful size read -/
theorem readSize_ok (h : readSize b e = .ok (sz, rest)) :
    ∃ a b1 c d, b = a :: b1 :: c :: d :: rest ∧ sz = i32 a b1 c d := by
  match b with
  | [] | [_] | [_, _] | [_, _, _] => cases e <;> cases h
  | a :: b1 :: c :: d :: r => cases h; exact ⟨a, b1, c, d, rfl, rfl⟩

theorem readFull_append (m rest : Bytes) (e : Ending) :
    readFull m.length (m ++ rest) e = .ok (m, rest) := by
  unfold readFull
  rw [if_pos (by simp)]
  simp

/-- a short read never succeeds -/
theorem readFull_short (n : Nat) (b : Bytes) (e : Ending) (h : b.length < n) :
    ∃ er, readFull n b e = .error er := by
  unfold readFull
  rw [if_neg (by omega)]
  cases e with
  | abrupt => exact ⟨_, rfl⟩
  | clean => simp only; split <;> exact ⟨_, rfl⟩

theorem readFull_ok {n : Nat} (h : readFull n b e = .ok (m, rest)) :
    b = m ++ rest ∧ m.length = n := by
  unfold readFull at h
  split at h
  · cases h
    exact ⟨(List.take_append_drop n b).symm, List.length_take_of_le ‹_›⟩
  · cases e with
    | abrupt => cases h
    | clean => simp only at h; split at h <;> cases h

/-! ## `readPayload`: the guarded read shared by the decoder and, given `guarded`, the client -/

theorem maxSize_lt : Gen.maxMessageSize < 2147483648 := by decide

theorem readPayload_of_neg (h : sz < 0) (b : Bytes) (e : Ending) :
    readPayload sz b e = (.error .negativeSize, []) := by
  unfold readPayload; rw [if_pos h]

theorem readPayload_of_gt (h : maxSize < sz) (b : Bytes) (e : Ending) :
    readPayload sz b e = (.error .tooLarge, []) := by
  unfold readPayload; rw [if_neg (by unfold maxSize at h; omega), if_pos h]

theorem readPayload_natCast {n : Nat} (h : n ≤ Gen.maxMessageSize) (b : Bytes) (e : Ending) :
    readPayload (n : Int) b e = (readFull n b e, [n]) := by
  unfold readPayload
  rw [if_neg (by omega), if_neg (by unfold maxSize; omega), Int.toNat_natCast]

theorem readPayload_frame (m rest : Bytes) (e : Ending) (h : m.length ≤ Gen.maxMessageSize) :
    readPayload (m.length : Int) (m ++ rest) e = (.ok (m, rest), [m.length]) := by
  rw [readPayload_natCast h, readFull_append]

theorem readPayload_allocs (sz : Int) (b : Bytes) (e : Ending) :
    ∀ x ∈ (readPayload sz b e).2, x ≤ Gen.maxMessageSize := by
  intro x hx
  unfold readPayload at hx
  split at hx
  · cases hx
  · split at hx
    · cases hx
    · rename_i h
      rw [List.mem_singleton.mp hx]; unfold maxSize at h; omega

theorem readPayload_ok (h : readPayload sz b e = (.ok (m, rest), al)) :
    b = m ++ rest ∧ (m.length : Int) = sz ∧ al = [m.length] ∧ m.length ≤ Gen.maxMessageSize := by
  unfold readPayload at h
  split at h
  · cases h
  · split at h
    · cases h
    · rename_i h0 h1
      obtain ⟨hrf, rfl⟩ := Prod.mk.inj h
      obtain ⟨hb, hlen⟩ := readFull_ok hrf
      unfold maxSize at h1
      exact ⟨hb, by omega, by rw [hlen], by omega⟩

/-! ## one step of the client loop -/

theorem guarded : clientDataGuarded = true := by decide

theorem clientStep_error {er : RdErr} (h : readSize b e = .error er) :
    clientStep b e = .done (.err (eofToUnexpected er)) [] := by
  unfold clientStep; rw [h]

theorem clientStep_neg (h : readSize b e = .ok (sz, rest)) (hneg : sz < 0) :
    clientStep b e = match readPayload (wrap32 (-sz)) rest e with
      | (.ok (t, _), al) => .done (.trailer t) al
      | (.error er, al) => .done (.err (eofToUnexpected er)) al := by
  unfold clientStep; rw [h]; simp only [if_pos hneg]; rfl

/-- a data frame: as the size guard is in place, the client's own read is the decoder's `readPayload` -/
theorem clientStep_nonneg (h : readSize b e = .ok (sz, rest)) (h0 : 0 ≤ sz) :
    clientStep b e = match readPayload sz rest e with
      | (.ok (m, rest'), al) => .msg m rest' al
      | (.error er, al) => .done (.err (eofToUnexpected er)) al := by
  unfold clientStep readPayload
  rw [h, guarded]
  simp only [if_neg (Int.not_lt.mpr h0), Bool.true_and, decide_eq_true_eq]
  split
  · rfl
  · cases readFull sz.toNat rest e <;> rfl

theorem clientStep_be32 {n : Nat} (hn : n ≤ Gen.maxMessageSize) (b : Bytes) (e : Ending) :
    clientStep (be32 n ++ b) e = match readFull n b e with
      | .ok (m, rest) => .msg m rest [n]
      | .error er => .done (.err (eofToUnexpected er)) [n] := by
  have hlt := maxSize_lt
  rw [clientStep_nonneg (readSize_be32 n b e (by omega)) (by omega), readPayload_natCast hn]
  cases readFull n b e <;> rfl

theorem clientStep_be32_neg {n : Nat} (h0 : 0 < n) (hn : n ≤ Gen.maxMessageSize) (b : Bytes) (e : Ending) :
    clientStep (be32 ((4294967296 - n) % 4294967296) ++ b) e = match readFull n b e with
      | .ok (t, _) => .done (.trailer t) [n]
      | .error er => .done (.err (eofToUnexpected er)) [n] := by
  have hlt := maxSize_lt
  rw [clientStep_neg (readSize_be32_neg n b e h0 (by omega)) (by omega), Int.neg_neg,
    wrap32_natCast (by omega), readPayload_natCast hn]
  cases readFull n b e <;> rfl

theorem clientStep_frame (m rest : Bytes) (e : Ending) (hm : m.length ≤ Gen.maxMessageSize) :
    clientStep (encodeFrame m ++ rest) e = .msg m rest [m.length] := by
  unfold encodeFrame
  rw [List.append_assoc, clientStep_be32 hm, readFull_append]

theorem clientStep_trailer (t rest : Bytes) (e : Ending) (h0 : 0 < t.length) (hm : t.length ≤ Gen.maxMessageSize) :
    clientStep (encodeTrailer t ++ rest) e = .done (.trailer t) [t.length] := by
  unfold encodeTrailer
  rw [List.append_assoc, clientStep_be32_neg h0 hm, readFull_append]

theorem clientStep_tooLarge (h : readSize b e = .ok (sz, rest)) (hgt : maxSize < sz) :
    clientStep b e = .done (.err .tooLarge) [] := by
  rw [clientStep_nonneg h (by unfold maxSize at hgt; omega), readPayload_of_gt hgt]; rfl

/-- a delivered message is exactly a frame at the head of the input; its allocation is its length,
    which is within the limit -/
theorem clientStep_msg (h : clientStep b e = .msg m rest al) :
    b = encodeFrame m ++ rest ∧ al = [m.length] ∧ m.length ≤ Gen.maxMessageSize := by
  cases hrs : readSize b e with
  | error er => rw [clientStep_error hrs] at h; cases h
  | ok p =>
    obtain ⟨sz, r1⟩ := p
    obtain ⟨a, b1, c, d, rfl, rfl⟩ := readSize_ok hrs
    by_cases hneg : i32 a b1 c d < 0
    · rw [clientStep_neg hrs hneg] at h
      split at h <;> cases h
    · rw [clientStep_nonneg hrs (Int.not_lt.mp hneg)] at h
      split at h
      · next hp =>
        cases h
        obtain ⟨rfl, hlen, rfl, hle⟩ := readPayload_ok hp
        refine ⟨?_, rfl, hle⟩
        unfold encodeFrame
        rw [be32_of_i32 hlen.symm]; rfl
      · cases h

theorem clientStep_done_allocs (h : clientStep b e = .done o al) : ∀ x ∈ al, x ≤ Gen.maxMessageSize := by
  cases hrs : readSize b e with
  | error er => rw [clientStep_error hrs] at h; cases h; nofun
  | ok p =>
    obtain ⟨sz, r1⟩ := p
    by_cases hneg : sz < 0
    · rw [clientStep_neg hrs hneg] at h
      have hal := readPayload_allocs (wrap32 (-sz)) r1 e
      split at h <;> next hp => cases h; rw [hp] at hal; exact hal
    · rw [clientStep_nonneg hrs (Int.not_lt.mp hneg)] at h
      have hal := readPayload_allocs sz r1 e
      split at h
      · cases h
      · next hp => cases h; rw [hp] at hal; exact hal

/-- a frame cut anywhere ends the loop with an error, if it does so whenever the size prefix is
    intact and the payload short -/
theorem clientStep_take {hdr p : Bytes} (hl : hdr.length = 4)
    (h : ∀ p' : Bytes, p'.length < p.length → ∃ er al, clientStep (hdr ++ p') e = .done (.err er) al)
    {k : Nat} (hk : k < (hdr ++ p).length) :
    ∃ er al, clientStep ((hdr ++ p).take k) e = .done (.err er) al := by
  rw [List.length_append, hl] at hk
  by_cases h4 : k < 4
  · obtain ⟨er, her⟩ := readSize_short ((hdr ++ p).take k) e (by rw [List.length_take]; omega)
    exact ⟨_, _, clientStep_error her⟩
  · rw [List.take_append, List.take_of_length_le (by omega), hl]
    exact h _ (by rw [List.length_take]; omega)

theorem clientStep_take_frame (hm : m.length ≤ Gen.maxMessageSize) (e : Ending) {k : Nat}
    (hk : k < (encodeFrame m).length) :
    ∃ er al, clientStep ((encodeFrame m).take k) e = .done (.err er) al := by
  refine clientStep_take (be32_length _) (fun p hp => ?_) hk
  obtain ⟨er, her⟩ := readFull_short _ p e hp
  rw [clientStep_be32 hm, her]
  exact ⟨_, _, rfl⟩

theorem clientStep_take_trailer {t : Bytes} (h0 : 0 < t.length) (ht : t.length ≤ Gen.maxMessageSize)
    (e : Ending) {k : Nat} (hk : k < (encodeTrailer t).length) :
    ∃ er al, clientStep ((encodeTrailer t).take k) e = .done (.err er) al := by
  refine clientStep_take (be32_length _) (fun p hp => ?_) hk
  obtain ⟨er, her⟩ := readFull_short _ p e hp
  rw [clientStep_be32_neg h0 ht, her]
  exact ⟨_, _, rfl⟩

/-! ## the loop: fuel independence and unfolding equations -/

theorem encodeFrame_length (m : Bytes) : (encodeFrame m).length = 4 + m.length := by
  unfold encodeFrame; rw [List.length_append, be32_length]

theorem clientStep_msg_lt (h : clientStep b e = .msg m rest al) : rest.length < b.length := by
  rw [(clientStep_msg h).1, List.length_append, encodeFrame_length]; omega

theorem clientDecodeFuel_indep : ∀ (f1 f2 : Nat) (b : Bytes) (e : Ending),
    b.length < f1 → b.length < f2 → clientDecodeFuel f1 b e = clientDecodeFuel f2 b e := by
  intro f1
  induction f1 with
  | zero => intro f2 b e h; omega
  | succ n ih =>
    intro f2 b e h1 h2
    cases f2 with
    | zero => omega
    | succ k =>
      unfold clientDecodeFuel
      cases hs : clientStep b e with
      | done o al => rfl
      | msg m rest al =>
        have := clientStep_msg_lt hs
        simp only
        rw [ih k rest e (by omega) (by omega)]

theorem clientDecode_done (h : clientStep b e = .done o al) :
    clientDecode b e = ⟨[], al, o⟩ := by
  unfold clientDecode clientDecodeFuel
  rw [h]

theorem clientDecode_msg (h : clientStep b e = .msg m rest al) :
    clientDecode b e = ⟨m :: (clientDecode rest e).msgs, al ++ (clientDecode rest e).allocs,
                         (clientDecode rest e).outcome⟩ := by
  have := clientStep_msg_lt h
  unfold clientDecode
  rw [clientDecodeFuel, h, clientDecodeFuel_indep (rest.length + 1) b.length rest e (by omega) (by omega)]

/-- induction principle: on the length of the remaining input -/
theorem clientDecode_induction {P : Bytes → Prop}
    (done : ∀ b o al, clientStep b e = .done o al → P b)
    (msg : ∀ b m rest al, clientStep b e = .msg m rest al → P rest → P b)
    (b : Bytes) : P b := by
  induction hn : b.length using Nat.strongRecOn generalizing b with
  | _ n ih =>
    cases hs : clientStep b e with
    | done o al => exact done b o al hs
    | msg m rest al =>
      exact msg b m rest al hs (ih rest.length (hn ▸ clientStep_msg_lt hs) rest rfl)

theorem clientDecode_encodeStream (ms : List Bytes) (t rest : Bytes) (e : Ending)
    (hms : ∀ m ∈ ms, m.length ≤ Gen.maxMessageSize) (ht0 : 0 < t.length) (ht : t.length ≤ Gen.maxMessageSize) :
    clientDecode (encodeStream ms t ++ rest) e = ⟨ms, ms.map List.length ++ [t.length], .trailer t⟩ := by
  unfold encodeStream
  induction ms with
  | nil => exact clientDecode_done (clientStep_trailer t rest e ht0 ht)
  | cons m ms ih =>
    rw [List.flatMap_cons, List.append_assoc, List.append_assoc,
      clientDecode_msg (clientStep_frame m _ e (hms m List.mem_cons_self)), ← List.append_assoc,
      ih (fun x hx => hms x (List.mem_cons_of_mem m hx))]
    rfl

/-! ## the server's `RecvMsg` -/

/-- the server's first `RecvMsg` on a body that starts with a well-formed frame: the payload is
    read, then (single-request methods) the body is probed for a second prefix -/
theorem serverRecv_frame (cs : Bool) (bad : Bytes → Bool) (m rest : Bytes) (e : Ending)
    (h1 : m.length ≤ Gen.maxMessageSize) (hb : bad m = false) :
    serverRecv cs bad ⟨encodeFrame m ++ rest, 0⟩ e =
      if cs then (.ok m, ⟨rest, 1⟩, [m.length])
      else match readSize rest e with
        | .error .eof => (.ok m, ⟨rest, 1⟩, [m.length])
        | .error _ => (.error .extraRequest, ⟨rest, 1⟩, [m.length])
        | .ok (_, rest'') => (.error .extraRequest, ⟨rest'', 1⟩, [m.length]) := by
  have hlt := maxSize_lt
  unfold serverRecv
  rw [if_neg (by simp)]
  simp only [readSize_encodeFrame, wrap32_natCast (show m.length < 2147483648 by omega),
    readPayload_frame m rest e h1, hb, Bool.false_eq_true, if_false]
  cases cs <;> rfl

end Framing
