/-
  Outcome invariant of the InprocUnary system: whatever Invoke decides is either the cancellation
  status of its (done) context or the complete real result of the handler.
-/
import Proofs.Lemmas.InprocUnary

namespace InprocUnary
open InprocStream (Reason HErr Res codeOf translate)

/-- the complete result of a successful call, as the caller observes it -/
def Complete (s : St) : Prop :=
  ∃ x, s.hRet = some (some x, none) ∧ s.respCopied = some x ∧ s.cHdr = mdOpt s.hHdr ∧ s.cTlr = mdOpt s.hTlr

/-- `cClosed` enabled with a live context: the caller has taken exactly the frames of `framesOf` and is
    still undecided, so none of them was an error: it holds the response and all metadata (in
    particular the goroutine always writes a response or an error frame, and Invoke never reports a
    bare io.EOF) -/
theorem closed_complete {s : St} (hu : UInv s) (hctx : s.ctx = none) (hres : ¬s.result.isSome)
    (hcl : s.ch.isEmpty && s.chClosed) : s.gotResponse = true ∧ Complete s := by
  replace hres : s.result = none := by simpa using hres
  obtain ⟨hch, hcl⟩ : s.ch = [] ∧ s.chClosed = true := by simpa using hcl
  obtain ⟨hpc, hfr⟩ := hu.closed hcl
  have hnr : s.returned = false := Bool.eq_false_iff.2 fun h => by simpa [hres] using hu.retRes h
  obtain ⟨v, e, hr⟩ := hu.ret (by omega)
  have hdeq : s.deq = framesOf s.hHdr s.hTlr v e := by
    have := hu.live (by simp [svrCtxDone, hctx, hnr]) v e hr
    rwa [hu.q, hch, hfr, List.append_nil, List.append_nil] at this
  have h1 := hu.vRes hres
  have h2 := hu.vGot; have h3 := hu.vResp; have h4 := hu.vHdr; have h5 := hu.vTlr
  rw [hdeq, cview_framesOf] at h1 h2 h3 h4 h5
  cases v <;> cases e <;> simp at h1
  exact ⟨h2, _, hr, h3, h4, h5⟩

/-- an error frame on the channel is the handler's result, even if frames before it were skipped -/
theorem err_expected {s : St} (hu : UInv s) {e : HErr} {rest : List UFrame} (hch : s.ch = .err e :: rest) :
    ∃ ret, s.hRet = some ret ∧ translate e = expectedU ret := by
  have hmem : UFrame.err e ∈ s.enq := by simp [hu.q, hch]
  obtain ⟨v, e0, hr⟩ := hu.ret fun h0 => by simp [(hu.pc0 h0).2.1] at hmem
  exact ⟨_, hr, err_mem_framesOf _ _ _ _ _ (hu.mem _ (.inl hmem) v e0 hr)⟩

/-- the caller never finds a second response on the channel -/
theorem no_second_response {s : St} (hu : UInv s) (hc : UCnt s) {v : Nat} {rest : List UFrame}
    (hch : s.ch = .data v :: rest) : ¬s.gotResponse := by
  intro hg
  have := cview_got s.deq (hu.vGot ▸ hg)
  have := hc.cnt
  simp [hu.q, hch] at this
  omega

theorem translate_ne_ok (e : HErr) : translate e ≠ .ok := by cases e <;> simp [translate]

structure UOk (s : St) : Prop where
  okc : s.result = some .ok → Complete s
  res : ∀ r, s.result = some r →
    (∃ rr, s.ctx = some rr ∧ r = ctxStatus rr) ∨ (∃ ret, s.hRet = some ret ∧ r = expectedU ret)

theorem UOk.of_undecided {s : St} (h : ¬s.result.isSome) : UOk s := by
  constructor <;> simp_all

theorem UOk.of_ctx {s : St} {rr : Reason} (hc : s.ctx = some rr) (hr : s.result = some (ctxStatus rr)) : UOk s :=
  ⟨by simp [hr, ctxStatus], fun _ h => .inl ⟨rr, hc, Option.some.inj (h.symm.trans hr)⟩⟩

theorem UOk.of_expected {s : St} {r : Res} (hr : s.result = some r) (hne : r ≠ .ok)
    (h : ∃ ret, s.hRet = some ret ∧ r = expectedU ret) : UOk s :=
  ⟨fun h' => absurd (Option.some.inj (hr.symm.trans h')) hne, fun _ hr' => .inr (Option.some.inj (hr.symm.trans hr') ▸ h)⟩

theorem UOk.of_complete {s : St} (hr : s.result = some .ok) (hC : Complete s) : UOk s :=
  ⟨fun _ => hC, fun _ hr' => let ⟨_, hx, _⟩ := hC; .inr ⟨_, hx, Option.some.inj (hr'.symm.trans hr)⟩⟩

theorem uok_init (cap : Nat) : UOk (init cap) := .of_undecided (by simp [init])

theorem uok_step (s : St) (a : Act) (s' : St) (evs : List Ev) (hu : UInv s) (hc : UCnt s) (h : UOk s)
    (hs : step s a = some (s', evs)) : UOk s' := by
  cases a
  -- the handler is running: `hRet = none`, so no result is `ok` yet and every result is the context's
  case hSetHeader md | hSendHeader md | hSetTrailer md | hReturn v e =>
    obtain ⟨o1, o2⟩ := h
    have hpc0 := hu.pc0
    invert hs [step] <;> constructor <;> first | assumption | simp_all [Complete]
  -- the context was live: every result is the handler's
  case cancel r =>
    obtain ⟨o1, o2⟩ := h
    invert hs [step]; constructor <;> first | assumption | simp_all
  case cTake =>
    invert hs [step]
    · exact .of_expected rfl (translate_ne_ok _) (err_expected hu ‹_›)
    · exact absurd ‹_› (no_second_response hu hc ‹_›)
    all_goals exact .of_undecided ‹_›
  case cClosed =>
    invert hs [step, hu.g2, if_true]
    · exact .of_ctx ‹_› rfl
    · exact .of_complete rfl (closed_complete hu ‹_› ‹_› ‹_›).2
    · exact absurd (closed_complete hu ‹_› ‹_› ‹_›).1 ‹_›
  case cCtx => invert hs [step]; exact .of_ctx ‹_› rfl
  all_goals invert hs [step] <;> exact ⟨h.okc, h.res⟩

end InprocUnary
