/-
  HTTP streams end to end: the reply the server model writes, fed frame by frame to the client
  model as the response body. Linking lemmas between HttpServerStream (wire) and HttpClientStream
  (supplied / delivered) for the composition theorems of C01 / C02.
-/
import Proofs.Lemmas.HttpClient
import Proofs.Lemmas.HttpServerStream

namespace HttpCompose
open HttpServerStream (Out)
open HttpClientStream (Item Act St Ev step run init complete isRun dataOK)

/-- a frame on the wire as the client's decode loop meets it (the header block is not a body item;
    what the server wrote decodes on the client: same codec) -/
def itemOf : Out → Option Item
  | .head _ => none
  | .data m => some (.data m true)
  | .trailer c _ => some (.trailer c true)

def itemsOf (w : List Out) : List Item := w.filterMap itemOf

/-- the body items the transport supplied in an action sequence of the client model -/
def itemsIn : List Act → List Item
  | [] => []
  | .tItem i :: r => i :: itemsIn r
  | _ :: r => itemsIn r

theorem itemsIn_append (a b : List Act) : itemsIn (a ++ b) = itemsIn a ++ itemsIn b := by
  induction a with
  | nil => rfl
  | cons x r ih => cases x <;> simp [itemsIn, ih]

variable {s s' : St} {a : Act} {evs : List Ev}

/-- one step of the client model: `supplied` grows by exactly the decodable data items the transport
    supplied in that step -/
theorem step_supplied (h : step s a = some (s', evs)) : s'.supplied = s.supplied ++ dataOK (itemsIn [a]) := by
  cases a <;> (try cases ‹Item›) <;> invert h [step] <;> simp_all [itemsIn, complete]

theorem run_init_supplied (rs : Bool) (acts : List Act) (s : St) (h : run (init rs) acts = some s) :
    s.supplied = dataOK (itemsIn acts) :=
  isRun.induction_acts (fun l s => s.supplied = dataOK (itemsIn l))
    (fun l _ _ _ _ ih hs => by rw [step_supplied hs, ih, itemsIn_append, HttpClientStream.dataOK_append])
    acts _ s rfl h

/-- the trailer status the client holds comes from a decodable trailer item in the body, or is a
    non-OK reply status; and trailer items in the body come from the transport -/
theorem step_trailer (h : step s a = some (s', evs)) (c : Nat) :
    (s'.tr = some c → s.tr = some c ∨ .trailer c true ∈ s.body ∨ (a = .tReplyStatus c ∧ c ≠ 0)) ∧
    (.trailer c true ∈ s'.body → .trailer c true ∈ s.body ∨ .tItem (.trailer c true) = a) := by
  cases a <;> (try cases ‹Item›) <;> invert h [step] <;> constructor <;> intro hn <;> simp_all [complete]

theorem run_init_trcode (rs : Bool) (acts : List Act) (s : St) (h : run (init rs) acts = some s) (c : Nat)
    (hc : s.tr = some c) : .trailer c true ∈ itemsIn acts ∨ (.tReplyStatus c ∈ acts ∧ c ≠ 0) := by
  refine (isRun.induction_acts
    (fun l s => (s.tr = some c → .trailer c true ∈ itemsIn l ∨ (.tReplyStatus c ∈ l ∧ c ≠ 0)) ∧
      (.trailer c true ∈ s.body → .trailer c true ∈ itemsIn l))
    ?_ acts _ s (by simp [init]) h).1 hc
  intro l s a s' e ⟨ih1, ih2⟩ hs
  obtain ⟨h1, h2⟩ := step_trailer hs c
  refine ⟨fun hq => ?_, fun hq => ?_⟩
  · rcases h1 hq with h | h | ⟨rfl, h0⟩
    · rcases ih1 h with h | h <;> simp [itemsIn_append, h]
    · simp [itemsIn_append, ih2 h]
    · simp [h0]
  · rcases h2 hq with h | rfl
    · simp [itemsIn_append, ih2 h]
    · simp [itemsIn_append, itemsIn]

theorem dataOK_prefix (a b : List Item) (h : a <+: b) : dataOK a <+: dataOK b := by
  obtain ⟨t, rfl⟩ := h
  rw [HttpClientStream.dataOK_append]
  exact List.prefix_append _ _

theorem eq_of_prefix_concat_of_mem {α} {p l : List α} {x y : α} (hp : p <+: l ++ [x]) (hy : y ∈ p) (hl : y ∉ l) :
    p = l ++ [x] ∧ y = x := by
  rcases List.prefix_concat_iff.1 hp with rfl | h
  · exact ⟨rfl, by simpa [hl] using hy⟩
  · exact absurd (h.mem hy) hl

/-- Of a complete reply (header block, data frames, trailer frame), a part the transport has
    delivered that contains a decodable trailer item is the whole, and the item is the reply's trailer. -/
theorem feed_complete {h : List Nat} {fs : List Out} {c c' : Nat} {md : List Nat} {p : List Item}
    (hfs : HttpServerStream.allData fs = true) (hp : p <+: itemsOf (.head h :: (fs ++ [.trailer c md])))
    (hm : .trailer c' true ∈ p) : p = itemsOf (.head h :: (fs ++ [.trailer c md])) ∧ c' = c := by
  have e : itemsOf (.head h :: (fs ++ [.trailer c md])) = itemsOf fs ++ [.trailer c true] := by
    simp [itemsOf, List.filterMap_cons, itemOf]
  have hn : Item.trailer c' true ∉ itemsOf fs := by
    simp only [HttpServerStream.allData, List.all_eq_true] at hfs
    simp only [itemsOf, List.mem_filterMap, not_exists, not_and]
    intro f hf
    have := hfs f hf
    cases f <;> simp_all [itemOf, HttpServerStream.isData]
  rw [e] at hp ⊢
  obtain ⟨h1, h2⟩ := eq_of_prefix_concat_of_mem hp hm hn
  exact ⟨h1, by simpa using h2⟩

/-- the messages of the handler's SendMsg calls that returned nil, in call order -/
def okSends : List HttpServerStream.Act → List InprocStream.Res → List Nat
  | .send m _ :: as, .ok :: rs => m :: okSends as rs
  | _ :: as, _ :: rs => okSends as rs
  | _, _ => []

theorem okSends_cons (a : HttpServerStream.Act) (as : List HttpServerStream.Act) (r : InprocStream.Res) (rs : List InprocStream.Res) :
    okSends (a :: as) (r :: rs) = okSends [a] [r] ++ okSends as rs := by
  cases a <;> first | rfl | (cases r <;> rfl)

theorem itemsOf_snoc (w : List Out) (f : Out) : itemsOf (w ++ [f]) = itemsOf w ++ (itemOf f).toList := by
  simp only [itemsOf, List.filterMap_append, List.filterMap_cons, List.filterMap_nil]
  cases itemOf f <;> rfl

theorem itemsOf_withHead (s : HttpServerStream.St) : itemsOf (HttpServerStream.withHead s) = itemsOf s.wire := by
  unfold HttpServerStream.withHead
  split <;> simp [itemsOf_snoc, itemOf]

/-- one step of the server model: the data frames on the wire grow by exactly the message of a
    SendMsg that returned nil -/
theorem step_msgs {s s' : HttpServerStream.St} {a : HttpServerStream.Act} {r : InprocStream.Res}
    (h : HttpServerStream.step s a = some (s', r)) :
    dataOK (itemsOf s'.wire) = dataOK (itemsOf s.wire) ++ okSends [a] [r] := by
  cases a <;> invert h [HttpServerStream.step, HttpServerStream.stepFinished, HttpServerStream.stepLive] <;>
    simp [okSends, itemsOf_snoc, itemsOf_withHead, itemOf]

theorem run_msgs (acts : List HttpServerStream.Act) : ∀ (s s' : HttpServerStream.St) (rs : List InprocStream.Res),
    HttpServerStream.run s acts = some (s', rs) → dataOK (itemsOf s'.wire) = dataOK (itemsOf s.wire) ++ okSends acts rs := by
  induction acts with
  | nil => intro s s' rs h; simp [HttpServerStream.run] at h; obtain ⟨rfl, rfl⟩ := h; simp [okSends]
  | cons a rest ih =>
    intro s s' rs h
    obtain ⟨s1, r, rs', hs, hr, rfl⟩ := HttpServerStream.run_cons h
    rw [ih s1 s' rs' hr, step_msgs hs, okSends_cons a rest r rs', List.append_assoc]

/-- the data frames a handler program has put on the wire are its successful sends -/
theorem wire_msgs {cs : Bool} {req : List HttpServerStream.ReqItem} {acts : List HttpServerStream.Act}
    {s : HttpServerStream.St} {rs : List InprocStream.Res}
    (h : HttpServerStream.run (HttpServerStream.init cs req) acts = some (s, rs)) :
    dataOK (itemsOf s.wire) = okSends acts rs := by
  simpa [HttpServerStream.init, itemsOf] using run_msgs acts _ s rs h

/-! ### request direction -/

theorem dataOK_map_data (l : List Nat) : HttpServerStream.dataOK (l.map fun m => .data m true) = l := by
  induction l with
  | nil => rfl
  | cons m r ih => simp [HttpServerStream.dataOK, ih]

def pend (s : St) : List Nat := match s.cSend with | some m => [m] | none => []

/-- what the client has put on the wire is, in order, what its SendMsg calls offered — with the
    message of a SendMsg still parked in the pipe as the only one outstanding; once a send has
    failed nothing more is offered -/
structure ReqInv (s : St) : Prop where
  eq : s.wErr = false → s.reqWritten ++ pend s = s.offered
  pre : s.reqWritten ++ pend s <+: s.offered

theorem reqinv_step (hi : ReqInv s) (h : step s a = some (s', evs)) : ReqInv s' := by
  obtain ⟨h1, h2⟩ := hi
  cases a <;> invert h [step] <;> constructor <;>
    first | assumption | (simp_all [pend]; done) | skip
  -- left: a SendMsg parked in the pipe fails; its message stays offered, and is not written
  all_goals simpa [pend] using (List.prefix_append _ _).trans h2

theorem reqinv_run (rs : Bool) (acts : List Act) (s : St) (h : run (init rs) acts = some s) : ReqInv s :=
  isRun.induction ReqInv (fun _ _ _ _ hp hs => reqinv_step hp hs) acts _ s
    (by constructor <;> simp [init, pend]) h

end HttpCompose
