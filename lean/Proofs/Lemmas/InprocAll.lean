/-
  All InprocStream invariants together, for every reachable state, and what they say about the
  moments the property theorems speak of.
-/
import Proofs.Lemmas.InprocReply

namespace InprocStream

structure Inv (s : St) : Prop where
  base : Base s
  req : ReqInv s
  srv : SrvInv s
  cli : CliInv s
  view : CliView s
  cap : Cap s
  live : s.ctx = none → Reply s

theorem inv_reachable (c1 c2 : Nat) (rs : Bool) (s : St) (h : Reachable c1 c2 rs s) : Inv s :=
  reachable_induction c1 c2 rs Inv
    ⟨base_init c1 c2 rs, req_init c1 c2 rs, srv_init c1 c2 rs, cli_init c1 c2 rs, view_init c1 c2 rs, cap_init c1 c2 rs,
     fun _ => reply_init c1 c2 rs⟩
    (fun s a s' evs hp hs =>
      ⟨base_step s a s' evs hp.base hs, req_step s a s' evs hp.base hp.req hs, srv_step s a s' evs hp.base hp.srv hs,
       cli_step s a s' evs hp.base hp.cli hs, view_step s a s' evs hp.base hp.view hs, cap_step s a s' evs hp.cap hs,
       fun hc => reply_step s a s' evs hp.base (hp.live (ctx_mono s s' a evs hs hc)) hs hc⟩) s h

/-- the handler's pending RecvMsg sees the closed, drained request channel while its context is live: it has
    been given everything the client handed to SendMsg -/
theorem Inv.req_clean_end {s : St} (hi : Inv s) (hrecv : s.sRecv = true) (hreq : s.req = []) (hcl : s.reqClosed = true)
    (hctx : svrCtxDone s = false) : s.sDelivered = s.cOffered := by
  have hb := hi.base
  have hnr : s.sReturned = false := by
    cases hsr : s.sReturned with
    | false => rfl
    | true => simp [hb.retRecv hsr] at hrecv
  obtain ⟨h1, h2⟩ := hi.req.live (by simp [remoteDone, hb.doneRet, hnr, hctx])
  rw [h2, hb.reqQ, hreq, hb.closedSend (hb.closedEq ▸ hcl), h1]; simp

/-- with a live context, every frame in the channel or taken by the client is a frame of the reply -/
theorem Inv.deq_reply {s : St} (hi : Inv s) (hctx : s.ctx = none) :
    s.respDeq ++ (s.resp ++ pendFrames s) = reply s := by
  rw [← List.append_assoc, ← hi.base.respQ]; exact (hi.live hctx).wire

/-- before the handler has committed its header block nothing has been written -/
theorem Inv.reply_nil {s : St} (hi : Inv s) (hctx : s.ctx = none) (hc : committed s = false) : reply s = [] := by
  have hret := hi.base.hret
  simp only [committed, Bool.or_eq_false_iff] at hc
  rw [hc.2, Option.isSome_eq_false_iff, Option.isNone_iff_eq_none] at hret
  simp [reply, committed, hc, (hi.live hctx).fresh (by simp [committed, hc]), hret, closeF]

/-- an error frame that has reached the channel is what the handler returned -/
theorem Inv.err_enq {s : St} (hi : Inv s) (hctx : s.ctx = none) {e : HErr} (h : Frame.err e ∈ s.respEnq) :
    s.hRet = some (some e) :=
  (mem_reply_err s e).mp ((hi.live hctx).wire ▸ List.mem_append_left _ h)

/-- **clean end**: the client sees the closed, drained channel under a live context. The handler has
    returned, nothing is pending, and the client has taken the whole reply. -/
theorem Inv.clean_end {s : St} (hi : Inv s) (hctx : s.ctx = none) (hr : s.resp = []) (hcl : s.respClosed = true) :
    s.sReturned = true ∧ s.respDeq = reply s := by
  obtain ⟨hw, hret⟩ := hi.base.closedW hcl
  have := hi.deq_reply hctx
  simp [hr, pendFrames, hw] at this
  exact ⟨hret, this⟩

/-- …and unless the client holds the handler's error, the handler returned nil -/
theorem Inv.clean_end_ok {s : St} (hi : Inv s) (hctx : s.ctx = none) (hr : s.resp = []) (hcl : s.respClosed = true)
    (hl : lastIsErr s = false) : s.hRet = some none := by
  obtain ⟨hret, hq⟩ := hi.clean_end hctx hr hcl
  have hsome := hi.base.hret
  rw [hret] at hsome
  rcases hh : s.hRet with _ | _ | e
  · simp [hh] at hsome
  · rfl
  · have := hi.view.errSeen hctx e (hq ▸ (mem_reply_err s e).mpr hh)
    simp [hl] at this

end InprocStream
