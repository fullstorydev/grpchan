/-
  The server side of the response direction under a live context. Nothing is skipped then, so what
  the handler goroutine has written and still holds pending is a function of the handler's calls
  so far: the header block (once committed), the messages handed to SendMsg, and after the return
  the trailers and the error. `Reply` is the invariant saying so; the facts the property theorems
  need (where headers, trailers and the error stand in the stream) are then facts about the list
  `reply s`.
-/
import Proofs.Lemmas.InprocInv

namespace InprocStream

/-- the handler has committed its header block: a frame has been handed to the writer -/
def committed (s : St) : Bool := s.sState != 0 || s.sWrite.isSome || s.sReturned

def hdrF (h : List Nat) : List Frame := if h.isEmpty then [] else [.headers h]
def tlrF (t : List Nat) : List Frame := if t.isEmpty then [] else [.trailers t]
/-- what `finish` writes after the header block, given the trailers and the handler's return value -/
def closeF (t : List Nat) : Option (Option HErr) → List Frame
  | none => []
  | some none => tlrF t
  | some (some e) => tlrF t ++ [.err e]

/-- the reply the handler's calls so far amount to -/
def reply (s : St) : List Frame :=
  (if committed s then hdrF s.hdrAll else []) ++ (s.sOffered.map .data ++ closeF s.tlrAll s.hRet)

/-- holds in every reachable state whose context is live -/
structure Reply (s : St) : Prop where
  hdrs : s.sState = 0 → s.sHeaders = s.hdrAll
  tlrs : s.sReturned = false → s.sTrailers = s.tlrAll
  fresh : committed s = false → s.sOffered = []
  /-- a pending SendMsg / SendHeader that has not yet moved `sState` starts with the header frame -/
  head : s.sState = 0 → ∀ fs k, s.sWrite = some ⟨fs, k⟩ → k ≠ .finish → ∃ h r, fs = .headers h :: r
  wire : s.respEnq ++ pendFrames s = reply s

theorem reply_init (c1 c2 : Nat) (rs : Bool) : Reply (init c1 c2 rs) := by
  constructor <;> simp [init, committed, reply, pendFrames, closeF]

theorem reply_step (s : St) (a : Act) (s' : St) (evs : List Ev) (hb : Base s) (h : Reply s)
    (hs : step s a = some (s', evs)) (hc : s'.ctx = none) : Reply s' := by
  have hc0 := ctx_mono s s' a evs hs hc
  -- with a live context the server's own context is done only once the goroutine has exited, and then nothing is pending
  have hx : s.svrExited = false ∨ s.sWrite = none := by
    cases hcl : s.respClosed with
    | false => exact Or.inl (hb.exitedEq.trans hcl)
    | true => exact Or.inr (hb.closedW hcl).1
  have b11 := hb.finRet
  have b12 := hb.retFin
  have b13 := hb.hret
  obtain ⟨r1, r2, r3, r4, r5⟩ := h
  clear hb hc
  cases a <;> invert hs [step, finishWrite] <;> constructor <;>
    first
    | assumption
    | (simp [*, committed, reply, pendFrames, hdrF, tlrF, closeF]; done)
    | simp_all [committed, reply, pendFrames, isFinish, svrCtxDone, hdrF, tlrF, closeF]

/-! ### what the reply carries, and where -/

@[simp] theorem nHdr_map_data (l : List Nat) : nHdr (l.map .data) = true := by simp [nHdr]
@[simp] theorem hasErr_map_data (l : List Nat) : hasErr (l.map .data) = false := by simp [hasErr]
@[simp] theorem tlrCount_map_data (l : List Nat) : tlrCount (l.map .data) = 0 := by simp [tlrCount]
@[simp] theorem hasErr_hdrF (h : List Nat) : hasErr (hdrF h) = false := by unfold hdrF; split <;> simp
@[simp] theorem tlrCount_hdrF (h : List Nat) : tlrCount (hdrF h) = 0 := by unfold hdrF; split <;> simp
@[simp] theorem nHdr_tlrF (t : List Nat) : nHdr (tlrF t) = true := by unfold tlrF; split <;> simp
@[simp] theorem hasErr_tlrF (t : List Nat) : hasErr (tlrF t) = false := by unfold tlrF; split <;> simp

theorem dataOf_reply (s : St) : dataOf (reply s) = s.sOffered := by
  unfold reply hdrF closeF tlrF
  repeat' split
  all_goals simp

theorem err_mem_hasErr {l : List Frame} {e : HErr} (h : Frame.err e ∈ l) : hasErr l = true :=
  List.any_eq_true.mpr ⟨_, h, rfl⟩

theorem mem_reply_err (s : St) (e : HErr) : Frame.err e ∈ reply s ↔ s.hRet = some (some e) := by
  have h1 : Frame.err e ∉ (if committed s then hdrF s.hdrAll else []) := fun h => by
    have := err_mem_hasErr h; split at this <;> simp at this
  have h2 : Frame.err e ∉ s.sOffered.map .data := fun h => by simpa using err_mem_hasErr h
  have h3 : Frame.err e ∉ tlrF s.tlrAll := fun h => by simpa using err_mem_hasErr h
  rcases hr : s.hRet with _ | _ | e' <;> simp [reply, closeF, hr, h1, h2, h3]
  exact eq_comm

/-- the header block, if there is one, is the first frame and the only one of its kind -/
theorem reply_hdr (s : St) (hc : committed s = true) :
    (s.hdrAll = [] ∧ nHdr (reply s) = true) ∨ hdrHead s.hdrAll (reply s) = true := by
  have h : nHdr (s.sOffered.map .data ++ closeF s.tlrAll s.hRet) = true := by
    rcases s.hRet with _ | _ | _ <;> simp [closeF]
  cases hh : s.hdrAll
  · exact Or.inl ⟨rfl, by simpa [reply, hc, hdrF, hh] using h⟩
  · exact Or.inr (by simpa [reply, hc, hdrF, hh] using h)

theorem errThenMore_append {a b : List Frame} (ha : hasErr a = false) : errThenMore (a ++ b) = errThenMore b := by
  induction a with
  | nil => rfl
  | cons f r ih => simp_all

/-- the error frame, if there is one, is the last frame -/
theorem errThenMore_reply (s : St) : errThenMore (reply s) = false := by
  have h : hasErr ((if committed s then hdrF s.hdrAll else []) ++ (s.sOffered.map .data ++ tlrF s.tlrAll)) = false := by
    split <;> simp
  rcases hr : s.hRet with _ | _ | e
  · simpa [reply, closeF, hr] using errThenMore_append (b := []) (a := (if committed s then hdrF s.hdrAll else []) ++ s.sOffered.map .data) (by split <;> simp)
  · simpa [reply, closeF, hr] using errThenMore_append (b := []) h
  · simpa [reply, closeF, hr] using errThenMore_append (b := [.err e]) h

theorem errThenMore_mid (a rest : List Frame) (e : HErr) (h : errThenMore (a ++ Frame.err e :: rest) = false) : rest = [] := by
  induction a with
  | nil => cases rest <;> simp at h ⊢
  | cons f r ih => simp at h; exact ih h.2

theorem tlrOf_noTlr (l : List Frame) (h : tlrCount l = 0) : tlrOf l = [] := by
  have : ∀ acc, l.foldl (fun acc f => match f with | .trailers md => md | _ => acc) acc = acc := by
    induction l with
    | nil => intro _; rfl
    | cons f r ih => cases f <;> simp_all
  exact this []

/-- once the handler has returned, the reply carries exactly the trailers it set -/
theorem tlrOf_reply (s : St) (h : s.hRet.isSome = true) : tlrOf (reply s) = s.tlrAll := by
  have h0 : tlrOf ((if committed s then hdrF s.hdrAll else []) ++ s.sOffered.map .data) = [] :=
    tlrOf_noTlr _ (by split <;> simp)
  have h1 : tlrOf ((if committed s then hdrF s.hdrAll else []) ++ (s.sOffered.map .data ++ tlrF s.tlrAll)) = s.tlrAll := by
    cases ht : s.tlrAll with
    | nil => simpa [tlrF] using h0
    | cons x t => simp [tlrF, ← List.append_assoc]
  rcases hr : s.hRet with _ | _ | e
  · simp [hr] at h
  · simpa [reply, closeF, hr] using h1
  · simpa [reply, closeF, hr, ← List.append_assoc] using h1

end InprocStream
