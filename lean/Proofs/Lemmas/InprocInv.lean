/-
  Invariants of the InprocStream transition system that hold whether or not the context is live:
  lock / lifecycle bookkeeping (`Base`), both channels as FIFO queues with the prefix relations
  between what was offered, enqueued, dequeued and delivered (`ReqInv`, `SrvInv`, `CliInv`), what
  the receiver holds in terms of the frames it has taken (`CliView`), buffer bounds (`Cap`).
  Each `…_step` is a case analysis over all branches of `step`; the branches that do not write the
  fields a clause reads close by `assumption`.
-/
import Proofs.Lemmas.InprocStream

namespace InprocStream

/-- the frames a pending server write still has to put on the channel -/
def pendFrames (s : St) : List Frame := match s.sWrite with
  | some p => p.frames
  | none => []

def isFinish (s : St) : Prop := s.sWrite.map (·.kind) = some WKind.finish

/-- **Base invariant**: lock / lifecycle bookkeeping. -/
structure Base (s : St) : Prop where
  reqQ : s.reqEnq = s.reqDeq ++ s.req
  respQ : s.respEnq = s.respDeq ++ s.resp
  doneRet : s.svrDone = s.sReturned
  retRecv : s.sReturned = true → s.sRecv = false
  closedEq : s.reqClosed = s.sendClosed
  closedSend : s.sendClosed = true → s.cSend = none
  exitedEq : s.svrExited = s.respClosed
  closedW : s.respClosed = true → s.sWrite = none ∧ s.sReturned = true
  recvLast : s.cRecv.isSome = true → s.last = none
  noPanic : s.panicked = false
  finRet : isFinish s → s.sReturned = true
  retFin : s.sReturned = true → s.sWrite = none ∨ isFinish s
  hret : s.hRet.isSome = s.sReturned
  lastKind : ∀ f, s.last = some f → (∃ m, f = .data m) ∨ (∃ e, f = .err e)
  stLast : s.cState = 0 → s.last = none

macro "step_cases" hs:ident : tactic =>
  `(tactic| (simp only [step, finishWrite] at $hs:ident <;> (repeat' split at $hs:ident) <;> simp_all))

theorem base_init (c1 c2 : Nat) (rs : Bool) : Base (init c1 c2 rs) := by
  constructor <;> simp [init, isFinish]

theorem base_step (s : St) (a : Act) (s' : St) (evs : List Ev) (h : Base s) (hs : step s a = some (s', evs)) :
    Base s' := by
  obtain ⟨h1, h2, h3, h4, h5, h6, h7, h8, h9, h10, h11, h12, h13, h14, h15⟩ := h
  cases a <;> invert hs [step, finishWrite] <;> constructor <;> first | assumption | (simp [*, isFinish]; done) | simp_all [isFinish]
  -- left over: `recvLast` where `RecvMsg` starts on a peeked frame that `lastKind` rules out
  all_goals (cases hl : s.last with
    | none => rfl
    | some f => rcases h14 f hl with ⟨m, rfl⟩ | ⟨e, rfl⟩ <;> simp_all)

theorem base_reachable (c1 c2 : Nat) (rs : Bool) (s : St) (h : Reachable c1 c2 rs s) : Base s :=
  reachable_induction c1 c2 rs Base (base_init c1 c2 rs) base_step s h

/-! ### request direction -/

/-- request-direction invariant.
    * `deliv`  : delivered ⊑ dequeued
    * `live`   : while the remote side is live (handler running, context not done) nothing has been
                 dropped or skipped: dequeued = delivered, offered = enqueued ++ pending
    * `pre`    : delivered ⊑ offered (the property) -/
structure ReqInv (s : St) : Prop where
  deliv : s.sDelivered <+: s.reqDeq
  live : remoteDone s = false → s.reqDeq = s.sDelivered ∧ s.cOffered = s.reqEnq ++ s.cSend.toList
  pre : s.sDelivered <+: s.cOffered

theorem req_init (c1 c2 : Nat) (rs : Bool) : ReqInv (init c1 c2 rs) := by
  constructor <;> simp [init, remoteDone, svrCtxDone]

theorem req_step (s : St) (a : Act) (s' : St) (evs : List Ev) (hb : Base s) (h : ReqInv s)
    (hs : step s a = some (s', evs)) : ReqInv s' := by
  have b1 := hb.reqQ
  have b3 := hb.doneRet
  have b4 := hb.retRecv
  have b6 := hb.closedSend
  obtain ⟨r1, r2, r3⟩ := h
  clear hb
  cases a <;> invert hs [step, finishWrite] <;> constructor <;>
    first | assumption | simp_all [remoteDone, svrCtxDone, List.prefix_append_of_prefix]
  all_goals (intros; simp_all)

theorem basereq_reachable (c1 c2 : Nat) (rs : Bool) (s : St) (h : Reachable c1 c2 rs s) : Base s ∧ ReqInv s :=
  reachable_induction c1 c2 rs (fun s => Base s ∧ ReqInv s) ⟨base_init c1 c2 rs, req_init c1 c2 rs⟩
    (fun s a s' evs hp hs => ⟨base_step s a s' evs hp.1 hs, req_step s a s' evs hp.1 hp.2 hs⟩) s h

/-! ### response direction -/

/-- messages the client has taken off the channel but not yet returned from a RecvMsg -/
def held (s : St) : List Nat :=
  (match s.last with | some (.data m) => [m] | _ => []) ++
  (match s.cRecv with | some (.probe m) => [m] | _ => [])

def lastIsErr (s : St) : Bool := match s.last with
  | some (.err _) => true
  | _ => false

/-- once the context is done, or the client has seen the final error, nothing more is delivered -/
def frozen (s : St) : Bool := s.ctx.isSome || lastIsErr s

def pendData (s : St) : List Nat := dataOf (pendFrames s)

/-- server side: what the handler handed to SendMsg vs. the data frames written and still to be written -/
structure SrvInv (s : St) : Prop where
  sPre : dataOf s.respEnq ++ pendData s <+: s.sOffered
  sLive : s.ctx = none → s.sOffered = dataOf s.respEnq ++ pendData s
  finNoData : isFinish s → pendData s = []

theorem srv_init (c1 c2 : Nat) (rs : Bool) : SrvInv (init c1 c2 rs) := by
  constructor <;> simp [init, pendData, pendFrames, isFinish]

theorem dataOf_cons_split (f : Frame) (r : List Frame) : dataOf (f :: r) = dataOf [f] ++ dataOf r := by
  cases f <;> simp

theorem prefix_left {α} {a b x : List α} (h : a ++ b <+: x) : a <+: x :=
  (List.prefix_append _ _).trans h

theorem srv_step (s : St) (a : Act) (s' : St) (evs : List Ev) (hb : Base s) (h : SrvInv s)
    (hs : step s a = some (s', evs)) : SrvInv s' := by
  have b7 := hb.exitedEq
  have b8 := hb.closedW
  have b11 := hb.finRet
  obtain ⟨r1, r2, r3⟩ := h
  clear hb
  cases a <;> invert hs [step, finishWrite] <;> constructor <;>
    first | assumption | simp_all [pendData, pendFrames, isFinish, svrCtxDone]
  all_goals (first | assumption | grind [dataOf_cons_split, prefix_left, List.append_eq_nil_iff])

/-- client side: data frames taken off the channel vs. messages RecvMsg returned -/
structure CliInv (s : St) : Prop where
  cPre : s.cDelivered ++ held s <+: dataOf s.respDeq
  cLive : frozen s = false → dataOf s.respDeq = s.cDelivered ++ held s
  single : s.respStream = false → s.cDelivered ≠ [] → s.respClosed = true ∧ s.resp = [] ∧ held s = []

theorem cli_init (c1 c2 : Nat) (rs : Bool) : CliInv (init c1 c2 rs) := by
  constructor <;> simp [init, held, frozen, lastIsErr]

theorem cli_step (s : St) (a : Act) (s' : St) (evs : List Ev) (hb : Base s) (h : CliInv s)
    (hs : step s a = some (s', evs)) : CliInv s' := by
  have b8 := hb.closedW
  have b9 := hb.recvLast
  obtain ⟨r1, r2, r3⟩ := h
  clear hb
  cases a <;> invert hs [step, finishWrite] <;> constructor <;>
    first | assumption | simp_all [held, frozen, lastIsErr, List.prefix_append_of_prefix]
  all_goals (first | assumption | grind [dataOf_cons_split, prefix_left, List.append_eq_nil_iff])

/-- client side: what the receiver holds is determined by the frames it has taken off the channel -/
structure CliView (s : St) : Prop where
  cH : s.ctx = none → s.cHeaders = hdrOf s.respDeq
  cT : s.ctx = none → s.cTrailers = tlrOf s.respDeq
  errLast : ∀ e, s.last = some (.err e) → Frame.err e ∈ s.respDeq ∨ (e = .status 13 ∧ s.respStream = false)
  errSeen : s.ctx = none → ∀ e, Frame.err e ∈ s.respDeq → lastIsErr s = true
  probeSingle : ∀ m, s.cRecv = some (.probe m) → s.respStream = false

theorem view_init (c1 c2 : Nat) (rs : Bool) : CliView (init c1 c2 rs) := by
  constructor <;> simp [init, lastIsErr]

theorem view_step (s : St) (a : Act) (s' : St) (evs : List Ev) (hb : Base s) (h : CliView s)
    (hs : step s a = some (s', evs)) : CliView s' := by
  have b9 := hb.recvLast
  obtain ⟨r1, r2, r3, r4, r5⟩ := h
  clear hb
  cases a <;> invert hs [step, finishWrite] <;> constructor <;>
    first | assumption | simp_all [lastIsErr]

/-! ### buffers -/

/-- the buffers respect their capacity, completed sends have enqueued their message, and a pending server
    `SendMsg` is an optional header frame followed by exactly the data frame -/
structure Cap (s : St) : Prop where
  req : s.req.length ≤ s.capReq
  resp : s.resp.length ≤ s.capResp
  sends : s.sendsDone ≤ s.reqDeq.length + s.req.length
  sSends : s.sSendsDone ≤ dataCount s.respDeq + dataCount s.resp
  shape : ∀ fs, s.sWrite = some ⟨fs, .sendMsg⟩ → (∃ m, fs = [.data m]) ∨ (∃ h m, fs = [.headers h, .data m])

theorem cap_init (c1 c2 : Nat) (rs : Bool) : Cap (init c1 c2 rs) := by
  constructor <;> simp [init]

theorem cap_step (s : St) (a : Act) (s' : St) (evs : List Ev) (h : Cap s)
    (hs : step s a = some (s', evs)) : Cap s' := by
  obtain ⟨r1, r2, r3, r4, r5⟩ := h
  cases a <;> invert hs [step, finishWrite] <;> constructor <;>
    first | assumption | simp_all
  all_goals first | omega | (obtain ⟨m, rfl⟩ := r5; simp; omega)

end InprocStream
