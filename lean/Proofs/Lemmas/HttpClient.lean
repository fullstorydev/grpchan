/-
  Invariants of the HttpClientStream transition system (helper lemmas for the HTTP clauses of
  C01, C02, C04, C05, C08).
-/
import Model.HttpClientStream
import Proofs.Lemmas.Lts

namespace HttpClientStream
open InprocStream (Reason Res codeOf)

def Reachable (rs : Bool) (s : St) : Prop := ∃ acts, run (init rs) acts = some s

theorem isRun : Lts.IsRun step run :=
  ⟨fun _ => rfl, fun s a l => by cases h : step s a <;> simp [run, h]⟩

theorem reachable_induction (rs : Bool) (P : St → Prop) (h0 : P (init rs))
    (hstep : ∀ s a s' evs, P s → step s a = some (s', evs) → P s') : ∀ s, Reachable rs s → P s :=
  fun s ⟨acts, hr⟩ => isRun.induction P hstep acts _ s h0 hr

/-- decodable data messages still in the body, in order -/
def dataOK : List Item → List Nat
  | [] => []
  | .data m true :: r => m :: dataOK r
  | _ :: r => dataOK r

@[simp] theorem dataOK_nil : dataOK [] = [] := rfl
@[simp] theorem dataOK_cons_ok (m : Nat) (r : List Item) : dataOK (.data m true :: r) = m :: dataOK r := rfl
@[simp] theorem dataOK_cons_bad (m : Nat) (r : List Item) : dataOK (.data m false :: r) = dataOK r := rfl
@[simp] theorem dataOK_cons_tr (c : Nat) (b : Bool) (r : List Item) : dataOK (.trailer c b :: r) = dataOK r := rfl
@[simp] theorem dataOK_cons_x (r : List Item) : dataOK (.bad :: r) = dataOK r := rfl
@[simp] theorem dataOK_append (a b : List Item) : dataOK (a ++ b) = dataOK a ++ dataOK b := by
  induction a with
  | nil => rfl
  | cons f r ih => rcases f with ⟨_, _ | _⟩ | _ | _ <;> simp [ih]

def holdList (s : St) : List Nat := if s.pc = 2 ∧ s.holdingOK = true then [s.holding] else []

def isTr : Item → Bool | .trailer _ _ => true | _ => false
def hasTr (l : List Item) : Bool := l.any isTr
/-- is there a trailer item that is not the last item? -/
def trNotLast : List Item → Bool
  | [] => false
  | i :: r => (isTr i && !r.isEmpty) || trNotLast r

@[simp] theorem hasTr_nil : hasTr [] = false := rfl
@[simp] theorem hasTr_cons (i : Item) (r : List Item) : hasTr (i :: r) = (isTr i || hasTr r) := by simp [hasTr]
@[simp] theorem hasTr_append (a b : List Item) : hasTr (a ++ b) = (hasTr a || hasTr b) := by simp [hasTr, List.any_append]
@[simp] theorem trNotLast_nil : trNotLast [] = false := rfl
@[simp] theorem trNotLast_cons (i : Item) (r : List Item) : trNotLast (i :: r) = ((isTr i && !r.isEmpty) || trNotLast r) := rfl
@[simp] theorem isTr_t (c : Nat) (b : Bool) : isTr (.trailer c b) = true := rfl
@[simp] theorem isTr_d (m : Nat) (b : Bool) : isTr (.data m b) = false := rfl
@[simp] theorem isTr_b : isTr .bad = false := rfl
theorem trNotLast_snoc (l : List Item) (i : Item) : trNotLast (l ++ [i]) = (trNotLast l || hasTr l) := by
  induction l with
  | nil => simp
  | cons g r ih => cases h : isTr g <;> simp [ih, h]

theorem dataOK_cons_if (m : Nat) (ok : Bool) (r : List Item) : dataOK (.data m ok :: r) = (if ok = true then [m] else []) ++ dataOK r := by
  cases ok <;> simp

/-- The error the completion `defer` leaves recorded: one recorded before stays; failing that it is
    the reader's own, replaced by the context's status once the context has ended (81f3c90). -/
theorem complete_rErr (s : St) :
    (complete s).rErr = s.rErr.or (s.rdErr.map fun e => (s.ctx.map ctxStatus).getD e) := by
  unfold complete; cases s.rErr <;> cases s.rdErr <;> cases s.ctx <;> rfl

/-- What holds of the error recorded before, of the reader's own error and of every context status
    holds of the error the completion `defer` leaves recorded. -/
theorem complete_rErr_ind {P : Res → Prop} {s : St} (h1 : ∀ e, s.rErr = some e → P e)
    (h2 : ∀ e, s.rdErr = some e → P e) (h3 : ∀ r, P (ctxStatus r)) :
    ∀ e, (complete s).rErr = some e → P e := by
  unfold complete
  cases hr : s.rErr <;> cases hd : s.rdErr <;> cases s.ctx <;> simp_all

/-- the results that report a failed call -/
def IsFailure : Res → Prop
  | .status _ | .plainErr => True
  | _ => False

structure HInv (s : St) : Prop where
  closedDone : s.rChClosed = true → s.done = true
  noPanic : s.panicked = false
  exited : s.pc = 3 → s.rChClosed = true ∧ s.pipeClosed = true
  pcle : s.pc ≤ 3
  pc0 : s.pc = 0 → s.replied = false ∧ s.body = [] ∧ s.done = false ∧ s.supplied = [] ∧ s.delivered = [] ∧ s.dropped = false ∧ s.trailerSupplied = false ∧ s.sawTrailerOK = false ∧ s.rErr = none ∧ s.tr = none ∧ (s.cRecv = none ∨ s.cRecv = some .first)
  doneRecv : s.done = true → s.cRecv = none ∨ s.pc = 3
  droppedDone : s.dropped = true → s.done = true ∧ s.rErr.isSome = true
  doneTr : s.done = true → s.rErr = none → s.tr.isSome = true
  trOK : s.tr = some 0 → s.sawTrailerOK = true
  probeSingle : ∀ m, s.cRecv = some (.probe m) → s.respStream = false
  violSingle : s.cRecv = some .violation → s.respStream = false
  pre : s.respStream = true → s.delivered <+: s.supplied
  live : s.respStream = true → s.dropped = false → s.supplied = s.delivered ++ holdList s ++ dataOK s.body
  sawSup : s.sawTrailerOK = true → s.trailerSupplied = true ∧ s.pc = 3 ∧ s.body = []
  tsup : s.trailerSupplied = false → hasTr s.body = false
  tlast : trNotLast s.body = false
  rErrNotEof : s.rErr ≠ some .eof
  rdErrNotEof : s.rdErr ≠ some .eof

/-! The clauses of `HInv` in groups, each of which the steps preserve by itself (`Delivery` with the
    help of two clauses of the others). -/

/-- The reader's exit: `rCh` and the request pipe are closed by the completion `defer` alone, which
    sets `done` first; so neither `panic("cs.rCh was closed but cs.done == false!")` is reached. -/
structure Exit (s : St) : Prop where
  closedDone : s.rChClosed = true → s.done = true
  noPanic : s.panicked = false
  exited : s.pc = 3 → s.rChClosed = true ∧ s.pipeClosed = true
  pcle : s.pc ≤ 3
  doneRecv : s.done = true → s.cRecv = none ∨ s.pc = 3

/-- until the round trip is answered nothing has happened on the response side -/
structure Fresh (s : St) : Prop where
  pc0 : s.pc = 0 → s.replied = false ∧ s.body = [] ∧ s.done = false ∧ s.supplied = [] ∧ s.delivered = [] ∧ s.dropped = false ∧ s.trailerSupplied = false ∧ s.sawTrailerOK = false ∧ s.rErr = none ∧ s.tr = none ∧ (s.cRecv = none ∨ s.cRecv = some .first)

/-- what a completed call has recorded: an error or a trailer status; an error whenever a message
    was dropped; and the errors are failures -/
structure Outcome (s : St) : Prop where
  droppedDone : s.dropped = true → s.done = true ∧ s.rErr.isSome = true
  doneTr : s.done = true → s.rErr = none → s.tr.isSome = true
  trOK : s.tr = some 0 → s.sawTrailerOK = true
  rErrFail : ∀ e, s.rErr = some e → IsFailure e
  rdErrFail : ∀ e, s.rdErr = some e → IsFailure e

/-- a trailer item is the last item of the body, and the reader has read it only if it was supplied -/
structure TrailerLast (s : St) : Prop where
  sawSup : s.sawTrailerOK = true → s.trailerSupplied = true ∧ s.pc = 3 ∧ s.body = []
  tsup : s.trailerSupplied = false → hasTr s.body = false
  tlast : trNotLast s.body = false

/-- A response-streaming call has no look-ahead for a second message; and as long as nothing was
    dropped, the decodable messages supplied are those delivered, the one held for hand-off, and
    those still in the body. -/
structure Delivery (s : St) : Prop where
  probeSingle : ∀ m, s.cRecv = some (.probe m) → s.respStream = false
  violSingle : s.cRecv = some .violation → s.respStream = false
  pre : s.respStream = true → s.delivered <+: s.supplied
  live : s.respStream = true → s.dropped = false → s.supplied = s.delivered ++ holdList s ++ dataOK s.body

variable {s s' : St} {a : Act} {evs : List Ev}

theorem exit_step (h : Exit s) (hs : step s a = some (s', evs)) : Exit s' := by
  obtain ⟨h1, h2, h3, h4, h5⟩ := h
  cases a <;> invert hs [step] <;> constructor <;>
    first | assumption | (simp [*, complete]; done) | simp_all

theorem fresh_step (h : Fresh s) (hs : step s a = some (s', evs)) : Fresh s' := by
  obtain ⟨h1⟩ := h
  cases a <;> invert hs [step] <;> constructor <;>
    first | assumption | (simp [*, complete]; done) | simp_all

theorem outcome_step (h : Outcome s) (hs : step s a = some (s', evs)) : Outcome s' := by
  obtain ⟨h1, h2, h3, h4, h5⟩ := h
  cases a <;> invert hs [step] <;> constructor <;>
    first | assumption | (simp [*, ↓complete_rErr, complete, IsFailure, ctxStatus]; done)
          | (simp_all [↓complete_rErr, complete, IsFailure]; done) | skip
  -- left: the error a completion `defer` records is a failure
  all_goals exact complete_rErr_ind h4 (by simp_all [IsFailure, ctxStatus]) fun _ => trivial

theorem trailerLast_step (h : TrailerLast s) (hs : step s a = some (s', evs)) : TrailerLast s' := by
  obtain ⟨h1, h2, h3⟩ := h
  -- (for `tItem i`, by cases of the item as well)
  cases a <;> (try cases ‹Item›) <;> invert hs [step] <;> constructor <;>
    first | assumption | (simp [*, complete, trNotLast_snoc]; done) | simp_all [complete, trNotLast_snoc]

theorem delivery_step (he : Exit s) (ho : Outcome s) (h : Delivery s) (hs : step s a = some (s', evs)) :
    Delivery s' := by
  obtain ⟨h1, h2, h3, h4⟩ := h
  -- no hand-off is reached after a drop: the reader has exited
  have h5 := he.doneRecv
  have h6 := ho.droppedDone
  clear he ho
  cases a <;> (try cases ‹Item›) <;> invert hs [step] <;> constructor <;>
    first | assumption | (simp [*, complete, holdList]; done)
          | simp_all [complete, holdList, dataOK_cons_if, List.prefix_append_of_prefix]

theorem HInv.of (he : Exit s) (hf : Fresh s) (ho : Outcome s) (ht : TrailerLast s) (hd : Delivery s) : HInv s :=
  ⟨he.closedDone, he.noPanic, he.exited, he.pcle, hf.pc0, he.doneRecv, ho.droppedDone, ho.doneTr, ho.trOK,
    hd.probeSingle, hd.violSingle, hd.pre, hd.live, ht.sawSup, ht.tsup, ht.tlast,
    fun h => ho.rErrFail _ h, fun h => ho.rdErrFail _ h⟩

theorem inv_reachable (rs : Bool) : ∀ s, Reachable rs s →
    Exit s ∧ Fresh s ∧ Outcome s ∧ TrailerLast s ∧ Delivery s := by
  refine reachable_induction rs _ ?_ ?_
  · refine ⟨?_, ?_, ?_, ?_, ?_⟩ <;> constructor <;> simp [init, holdList]
  · intro s a s' evs ⟨he, hf, ho, ht, hd⟩ hs
    exact ⟨exit_step he hs, fresh_step hf hs, outcome_step ho hs, trailerLast_step ht hs,
      delivery_step he ho hd hs⟩

theorem hinv_reachable (rs : Bool) (s : St) (h : Reachable rs s) : HInv s :=
  have ⟨he, hf, ho, ht, hd⟩ := inv_reachable rs s h
  .of he hf ho ht hd

theorem outcome_reachable (rs : Bool) (s : St) (h : Reachable rs s) : Outcome s :=
  (inv_reachable rs s h).2.2.1

/-- what RecvMsg reports of a completed call is io.EOF or a failure -/
theorem finalOf_eof_or_failure (h : ∀ e, s.rErr = some e → IsFailure e) : finalOf s = .eof ∨ IsFailure (finalOf s) := by
  unfold finalOf
  split
  · exact .inr (h _ ‹_›)
  · split <;> simp [IsFailure]

end HttpClientStream
