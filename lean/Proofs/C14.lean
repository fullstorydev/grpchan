/-
  C14 — every gRPC status code survives the unary HTTP mapping.
  Property theorems only; helper lemmas live in Proofs/Lemmas/Codes.lean.
  The tables come from Model/Gen/Codes.lean, regenerated from /repo on every
  run: each theorem is a decidable certificate over the regenerated data plus a
  table-independent lifting lemma, so a regenerated table that still satisfies
  the property re-checks without editing any proof.
-/
import Model.Gen.Wire
import Proofs.Lemmas.Codes

namespace Codes
open Prim

/-- Every documented row is what `httpStatusFromCode` returns. -/
theorem C14_forward_matches_doc :
    ∀ row ∈ Gen.docTable, httpStatusFromCode row.2.1 = row.2.2.1 := by
  decide

/-- The documented table covers every canonical non-OK code 1…16. -/
theorem C14_doc_covers_all_codes :
    ∀ c ∈ (List.range 17).tail, ∃ row ∈ Gen.docTable, row.2.1 = c := by
  decide

/-- For **every** code other than OK (all naturals — codes 17… included, by table + default)
    the forward mapping yields an HTTP error status. -/
theorem C14_forward_error_status (c : Nat) (hc : c ≠ OK) :
    400 ≤ httpStatusFromCode c ∧ httpStatusFromCode c ≤ 599 := by
  have rows : ∀ p ∈ Gen.fwdTable, p.1 ≠ OK → 400 ≤ p.2 ∧ p.2 ≤ 599 := by decide
  unfold httpStatusFromCode
  rcases lookup_mem_or_default Gen.fwdTable Gen.fwdDefault c with h | ⟨p, hp, hpc, h⟩ <;> rw [h]
  · decide
  · exact rows p hp (hpc ▸ hc)

/-- The 499 rule: exactly the starred rows of the documentation are subject to it, it applies
    iff the request context is done, and what it writes is an error status. -/
theorem C14_rule_499 :
    (∀ row ∈ Gen.docTable, row.2.2.2 = Gen.clientClosedCodes.contains row.2.1) ∧
    Gen.clientClosedStatus = 499 ∧
    (∀ c, Gen.clientClosedCodes.contains c = true →
        defaultRendererStatus c true = Gen.clientClosedStatus ∧
        defaultRendererStatus c false = httpStatusFromCode c) ∧
    (∀ c b, Gen.clientClosedCodes.contains c = false → defaultRendererStatus c b = httpStatusFromCode c) := by
  refine ⟨by decide, by decide, ?_, ?_⟩
  · intro c hc
    unfold defaultRendererStatus
    rw [hc]; simp
  · intro c b hc
    unfold defaultRendererStatus
    rw [hc]; simp

/-- Whatever the request context, the default renderer writes an error status for every non-OK code. -/
theorem C14_rendered_error_status (c : Nat) (hc : c ≠ OK) (ctxDone : Bool) :
    400 ≤ defaultRendererStatus c ctxDone ∧ defaultRendererStatus c ctxDone ≤ 599 := by
  unfold defaultRendererStatus
  split
  · decide
  · exact C14_forward_error_status c hc

/-- The caller recovers exactly the handler's code from the status header, for every `uint32`
    code (in-range or not), every message, and *whatever* HTTP status and status text the
    renderer wrote (a custom renderer, or one that wrote nothing → 200). -/
theorem C14_client_recovers_code (c : Nat) (hc : c < 4294967296) (msg : Bytes)
    (httpStatus : Int) (statusText : Bytes) :
    clientCodeMsg httpStatus statusText (some (statusHeaderValue c msg)) = (c, msg) := by
  -- the code travels as an int32 (negative from 2^31 on) and comes back through `uint32`
  have hw : -limOf 32 ≤ wrap32 c ∧ wrap32 c < limOf 32 := by
    rw [limOf_32]; unfold wrap32 two31 two32; omega
  have hu : (wrapU32 (wrap32 c)).toNat = c := by unfold wrapU32 wrap32 two31 two32; omega
  rw [statusHeaderValue, clientCodeMsg_intToDec _ _ _ _ hw, hu]

/-- A handler error carrying code OK is never rendered as OK. -/
theorem C14_ok_code_rewritten (c : Nat) : renderedCode c ≠ OK := by
  unfold renderedCode OK Internal
  split <;> simp_all

/-- Without the status header the caller derives OK for 2xx only — for **every** integer status:
    the regenerated ranges are checked one by one against the criterion of `rangeLookup_eq_iff`. -/
theorem C14_fallback_ok_iff_2xx (s : Int) :
    codeFromHttpStatus s = OK ↔ (200 ≤ s ∧ s < 300) :=
  rangeLookup_eq_iff Gen.revRanges Gen.revDefault OK 200 300 s (by decide) (by decide) (by decide)

/-- non-vacuity: concrete instances on today's tables -/
example : httpStatusFromCode 5 = 404 ∧ codeFromHttpStatus 503 = 14 ∧ codeFromHttpStatus 204 = 0 := by decide
example : clientCodeMsg 500 [] (some (statusHeaderValue 15 [97, 58, 98])) = (15, [97, 58, 98]) :=
  C14_client_recovers_code 15 (by omega) _ _ _

/-- regenerated from client.go: the status header value is taken apart at its FIRST colon, into at most two parts — which
    is what `splitN2 h 58` in `clientCodeMsg` models (so a message containing colons cannot disturb the code:
    `C14_client_recovers_code` holds for every message) -/
theorem C14_status_header_split_fact :
    Gen.statusHeaderSplit = "strings.SplitN(reply.Header.Get(\"X-GRPC-Status\"), \":\", 2)" := rfl

end Codes
